/-
  Byte-level primitives shared by the codec models (C06 transaction codec, C07 snapshot
  codec, C08 peer messages): big-endian integers, the `bytes.Reader` read with its end-of-input
  quirk (`readN`), length-prefixed bytes and big integers.  Core Lean only.
-/
namespace Mixin

abbrev Bytes := List UInt8

namespace Bytes

/-- tail-recursive worker: prepend the `n` low-order base-256 digits of `v` to `acc` -/
def beAux : Nat → Nat → Bytes → Bytes
  | 0, _, acc => acc
  | n + 1, v, acc => beAux n (v / 256) (UInt8.ofNat v :: acc)

/-- `n` bytes, big endian, of `v mod 256^n` (Go: `binary.BigEndian.AppendUintNN`, `big.Int.FillBytes`) -/
def be (n v : Nat) : Bytes := beAux n v []

/-- big-endian value of a byte string (Go: `binary.BigEndian.UintNN`, `big.Int.SetBytes`) -/
def beVal (b : Bytes) : Nat := b.foldl (fun acc x => acc * 256 + x.toNat) 0

theorem beAux_eq (n v : Nat) (acc : Bytes) : beAux n v acc = beAux n v [] ++ acc := by
  induction n generalizing v acc with
  | zero => simp [beAux]
  | succ n ih =>
    simp only [beAux]
    rw [ih (v / 256) (UInt8.ofNat v :: acc), ih (v / 256) [UInt8.ofNat v]]
    simp

theorem be_zero (v : Nat) : be 0 v = [] := rfl

theorem be_succ (n v : Nat) : be (n + 1) v = be n (v / 256) ++ [UInt8.ofNat v] := by
  simp only [be, beAux]
  rw [beAux_eq]

@[simp] theorem be_length (n v : Nat) : (be n v).length = n := by
  induction n generalizing v with
  | zero => rfl
  | succ n ih => rw [be_succ]; simp [ih]

theorem beVal_append_single (l : Bytes) (x : UInt8) :
    beVal (l ++ [x]) = beVal l * 256 + x.toNat := by
  simp [beVal, List.foldl_append]

theorem beVal_be (n v : Nat) : beVal (be n v) = v % 256 ^ n := by
  induction n generalizing v with
  | zero => rw [be_zero, Nat.pow_zero, Nat.mod_one]; rfl
  | succ n ih =>
    rw [be_succ, beVal_append_single, ih, Nat.pow_succ', Nat.mod_mul, UInt8.toNat_ofNat',
      Nat.mul_comm, Nat.add_comm]

theorem rev_ind {α : Type} {P : List α → Prop} (h0 : P [])
    (h1 : ∀ l x, P l → P (l ++ [x])) : ∀ l, P l := by
  intro l
  have h : ∀ l : List α, P l.reverse := by
    intro l
    induction l with
    | nil => exact h0
    | cons a t ih => rw [List.reverse_cons]; exact h1 _ _ ih
  have := h l.reverse
  rwa [List.reverse_reverse] at this

theorem beVal_be_of_lt {n v : Nat} (h : v < 256 ^ n) : beVal (be n v) = v := by
  rw [beVal_be, Nat.mod_eq_of_lt h]

theorem beVal_lt (b : Bytes) : beVal b < 256 ^ b.length := by
  induction b using rev_ind with
  | h0 => decide
  | h1 l x ih =>
    rw [beVal_append_single, List.length_append, List.length_singleton, Nat.pow_succ]
    exact Nat.lt_of_lt_of_le (Nat.add_lt_add_left x.toNat_lt _)
      (Nat.succ_mul _ _ ▸ Nat.mul_le_mul_right _ ih)

theorem beVal_cons (x : UInt8) (l : Bytes) : beVal (x :: l) = x.toNat * 256 ^ l.length + beVal l := by
  induction l using rev_ind with
  | h0 => simp [beVal]
  | h1 l y ih =>
    rw [← List.cons_append, beVal_append_single, ih, beVal_append_single, List.length_append,
      List.length_singleton, Nat.pow_succ, Nat.add_mul, Nat.mul_assoc, Nat.add_assoc]

theorem be_beVal (b : Bytes) : be b.length (beVal b) = b := by
  induction b using rev_ind with
  | h0 => rfl
  | h1 l x ih =>
    have hx : x.toNat < 256 := x.toNat_lt
    rw [List.length_append, List.length_singleton, be_succ, beVal_append_single,
      Nat.mul_comm, Nat.mul_add_div (by decide), Nat.div_eq_of_lt hx, Nat.add_zero, ih]
    congr 2
    apply UInt8.toNat_inj.mp
    rw [UInt8.toNat_ofNat', Nat.mul_add_mod, Nat.mod_eq_of_lt hx]

def writeU16 (v : Nat) : Bytes := be 2 v
def writeU32 (v : Nat) : Bytes := be 4 v
def writeU64 (v : Nat) : Bytes := be 8 v

/-- `Decoder.Read(b)` with `len(b) = n` on a `bytes.Reader` holding `s`.
    * reader exhausted → `io.EOF`, **even for `n = 0`**
    * fewer than `n` bytes left → "data short"
    * otherwise the next `n` bytes. -/
def readN (n : Nat) (s : Bytes) : Option (Bytes × Bytes) :=
  if s.isEmpty then none
  else if n = 0 then some ([], s)
  else if (s.drop (n - 1)).isEmpty then none
  else some (s.take n, s.drop n)

theorem readN_spec (n : Nat) (s : Bytes) :
    readN n s = if s = [] ∨ s.length < n then none else some (s.take n, s.drop n) := by
  unfold readN
  cases s with
  | nil => rfl
  | cons a t =>
    cases n with
    | zero => rfl
    | succ n => simp [Nat.lt_succ_iff]

/-- a zero-length read needs a non-empty remainder (the `bytes.Reader` quirk) -/
theorem readN_append {n : Nat} {a rest : Bytes} (hl : a.length = n) (hne : a ++ rest ≠ []) :
    readN n (a ++ rest) = some (a, rest) := by
  subst hl
  rw [readN_spec, if_neg, List.take_left, List.drop_left]
  rintro (h | h)
  · exact hne h
  · rw [List.length_append] at h
    omega

theorem readN_append_pos {n : Nat} {a rest : Bytes} (hl : a.length = n) (hn : 0 < n) :
    readN n (a ++ rest) = some (a, rest) := by
  apply readN_append hl
  cases a with
  | nil => subst hl; cases hn
  | cons _ _ => exact List.cons_ne_nil _ _

theorem readN_some {n : Nat} {s a r : Bytes} (h : readN n s = some (a, r)) :
    s = a ++ r ∧ a.length = n ∧ s ≠ [] := by
  rw [readN_spec] at h
  split at h
  · cases h
  · rename_i hc
    cases h
    exact ⟨(List.take_append_drop n s).symm, by rw [List.length_take]; omega,
      fun e => hc (Or.inl e)⟩

theorem readN_length {n : Nat} {s a r : Bytes} (h : readN n s = some (a, r)) : a.length = n :=
  (readN_some h).2.1

/-- `bytes.Reader.ReadByte` -/
def readByte : Bytes → Option (UInt8 × Bytes)
  | [] => none
  | b :: s => some (b, s)

/-- `Decoder.ReadUint16` (the `d > MaximumEncodingInt` test can never fire on a uint16) -/
def readU16 (s : Bytes) : Option (Nat × Bytes) :=
  match readN 2 s with
  | none => none
  | some (b, s) => some (beVal b, s)

def readU32 (s : Bytes) : Option (Nat × Bytes) :=
  match readN 4 s with
  | none => none
  | some (b, s) => some (beVal b, s)

def readU64 (s : Bytes) : Option (Nat × Bytes) :=
  match readN 8 s with
  | none => none
  | some (b, s) => some (beVal b, s)

/-- `readU16`, `readU32` and `readU64` are this reader at widths 2, 4 and 8 -/
def readBE (n : Nat) (s : Bytes) : Option (Nat × Bytes) :=
  match readN n s with
  | none => none
  | some (b, s) => some (beVal b, s)

theorem readBE_be {n v : Nat} (hn : 0 < n) (h : v < 256 ^ n) (rest : Bytes) :
    readBE n (be n v ++ rest) = some (v, rest) := by
  rw [readBE, readN_append_pos (be_length n v) hn]
  simp only
  rw [beVal_be_of_lt h]

theorem readBE_some {n : Nat} {s r : Bytes} {v : Nat} (h : readBE n s = some (v, r)) :
    s = be n v ++ r ∧ v < 256 ^ n := by
  unfold readBE at h
  split at h
  · cases h
  · rename_i b s' hb
    cases h
    obtain ⟨rfl, rfl, _⟩ := readN_some hb
    exact ⟨by rw [be_beVal], beVal_lt b⟩

theorem readU16_write {v : Nat} (h : v < 65536) (rest : Bytes) :
    readU16 (writeU16 v ++ rest) = some (v, rest) :=
  readBE_be (n := 2) (Nat.succ_pos _) h rest

theorem readU32_write {v : Nat} (h : v < 4294967296) (rest : Bytes) :
    readU32 (writeU32 v ++ rest) = some (v, rest) :=
  readBE_be (n := 4) (Nat.succ_pos _) h rest

theorem readU64_write {v : Nat} (h : v < 18446744073709551616) (rest : Bytes) :
    readU64 (writeU64 v ++ rest) = some (v, rest) :=
  readBE_be (n := 8) (Nat.succ_pos _) h rest

theorem readU16_some {s r : Bytes} {v : Nat} (h : readU16 s = some (v, r)) :
    s = writeU16 v ++ r ∧ v < 65536 :=
  readBE_some (n := 2) h

theorem readU32_some {s r : Bytes} {v : Nat} (h : readU32 s = some (v, r)) :
    s = writeU32 v ++ r ∧ v < 4294967296 :=
  readBE_some (n := 4) h

theorem readU64_some {s r : Bytes} {v : Nat} (h : readU64 s = some (v, r)) :
    s = writeU64 v ++ r ∧ v < 18446744073709551616 :=
  readBE_some (n := 8) h

/-- `enc.WriteInt(len(b)); enc.Write(b)` (the `WriteInt` panic guard `len ≤ 65535` is the caller's) -/
def writeBytes (b : Bytes) : Bytes := writeU16 b.length ++ b

/-- `Decoder.ReadBytes`: length 0 returns without touching the reader. -/
def readBytes (s : Bytes) : Option (Bytes × Bytes) :=
  match readU16 s with
  | none => none
  | some (l, s) => if l = 0 then some ([], s) else readN l s

theorem readBytes_write {b : Bytes} (h : b.length < 65536) (rest : Bytes) :
    readBytes (writeBytes b ++ rest) = some (b, rest) := by
  unfold readBytes writeBytes
  rw [List.append_assoc, readU16_write h]
  simp only
  by_cases h0 : b.length = 0
  · have : b = [] := List.eq_nil_of_length_eq_zero h0
    subst this; simp
  · rw [if_neg h0]
    exact readN_append_pos rfl (by omega)

theorem readBytes_length_le {s b r : Bytes} (h : readBytes s = some (b, r)) : b.length ≤ 65535 := by
  unfold readBytes at h
  split at h
  · cases h
  · rename_i l s' hl
    have := (readU16_some hl).2
    split at h
    · cases h
      exact Nat.zero_le _
    · have := readN_length h
      omega

/-! ## big integers (`common.Integer` is a non-negative `big.Int`) -/

/-- `big.Int.BitLen` -/
def bitLen (v : Nat) : Nat := if v = 0 then 0 else v.log2 + 1

/-- `(d.i.BitLen() + 7) / 8` -/
def byteLen (v : Nat) : Nat := (bitLen v + 7) / 8

theorem byteLen_le_iff {v n : Nat} : byteLen v ≤ n ↔ v < 256 ^ n := by
  unfold byteLen bitLen
  split
  · rename_i h0
    rw [h0]
    exact ⟨fun _ => Nat.pow_pos (by decide), fun _ => Nat.zero_le _⟩
  · rename_i h0
    rw [show (256 : Nat) = 2 ^ 8 from rfl, ← Nat.pow_mul, ← Nat.log2_lt h0,
      Nat.div_le_iff_le_mul_add_pred (by decide)]
    omega

theorem lt_pow_byteLen (v : Nat) : v < 256 ^ byteLen v := byteLen_le_iff.mp (Nat.le_refl _)

/-- `Encoder.WriteInteger` (guard `byteLen v ≤ 65535` is the caller's) -/
def writeInteger (v : Nat) : Bytes := writeU16 (byteLen v) ++ be (byteLen v) v

/-- `Decoder.ReadInteger`: the payload is read unconditionally, so a zero-length integer
    at the very end of the input is an error (`readN 0 [] = none`). -/
def readInteger (s : Bytes) : Option (Nat × Bytes) :=
  match readU16 s with
  | none => none
  | some (l, s) =>
    match readN l s with
    | none => none
    | some (b, s) => some (beVal b, s)

theorem readInteger_write {v : Nat} (h : byteLen v < 65536) {rest : Bytes} (hne : rest ≠ []) :
    readInteger (writeInteger v ++ rest) = some (v, rest) := by
  unfold readInteger writeInteger
  rw [List.append_assoc, readU16_write h]
  simp only
  rw [readN_append (be_length _ _) (by simp [hne])]
  simp only
  rw [beVal_be_of_lt (lt_pow_byteLen v)]

theorem readInteger_byteLen_le {s r : Bytes} {v : Nat} (h : readInteger s = some (v, r)) :
    byteLen v ≤ 65535 := by
  unfold readInteger at h
  split at h
  · cases h
  · rename_i l s' hl
    split at h
    · cases h
    · rename_i b s'' hb
      cases h
      have := byteLen_le_iff.mpr (beVal_lt b)
      have := readN_length hb
      have := (readU16_some hl).2
      omega

/- the quirk, concretely: the two bytes `00 00` alone are not a readable Integer, but are
    one as soon as anything follows. -/
example : readInteger [0, 0] = none := by decide +kernel
example : readInteger [0, 0, 7] = some (0, [7]) := by decide +kernel
example : readBytes [0, 0] = some ([], []) := by decide +kernel

end Bytes
end Mixin
