import Mixin.Facts.Generated
/-!
  C21: `marker_after_restart` is proved for the model's startup walk, which visits EVERY topology
  entry strictly between the recorded marker and the last entry (`Recovery.setupRepair`:
  `filter (mo < order < last)`), for histories of any length. The tie to
  `kernel/node.go:repairConsensusState`, regenerated from the source on every run (fact kind
  `walk`, harness/extract_walk.go, local names resolved away):

  * the walk starts at the marker's topological order + 1 — the marker being what `ReadSnapshot`
    returned, nothing else (a second assignment would show up as `phi(…)`);
  * it continues while the cursor is below the function's parameter (the last order);
  * the cursor only ever jumps to the order after the last entry of the page just read;
  * there is no `break`, and the function mentions exactly one integer constant other than 0/1
    (the page size): no window, cap or second bound. The page size itself may be retuned and
    locals renamed without touching this file.
-/
namespace Mixin.Facts.ExpectedC21
open Mixin.Facts.Gen

theorem repair_walk_shape :
    kernel_Node_repairConsensusState_walk.lookup "start" = some "ReadSnapshot#0.TopologicalOrder+1" ∧
    kernel_Node_repairConsensusState_walk.lookup "cond" = some "i<param0" ∧
    kernel_Node_repairConsensusState_walk.lookup "step" =
      some "ReadSnapshotWithTransactionsSinceTopology#0[len(ReadSnapshotWithTransactionsSinceTopology#0)-1].TopologicalOrder+1" ∧
    kernel_Node_repairConsensusState_walk.lookup "breaks" = some "0" ∧
    kernel_Node_repairConsensusState_walk.lookup "bigints" = some "1" := by decide +kernel

/-- every page is handed to `reloadConsensusState`, once, by a single paging call -/
theorem repair_walk_calls :
    kernel_Node_repairConsensusState_calls.contains "ReadSnapshotWithTransactionsSinceTopology*1" = true ∧
    kernel_Node_repairConsensusState_calls.contains "reloadConsensusState*1" = true ∧
    kernel_Node_repairConsensusState_calls.contains "ReadSnapshot*1" = true := by decide +kernel

end Mixin.Facts.ExpectedC21
