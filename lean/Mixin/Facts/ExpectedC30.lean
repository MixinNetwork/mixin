import Mixin.Facts.Generated
/-!
Facts of the source tree the C30 model relies on: `AuthenticateAs` has five error returns (the
five rejecting tests of the model), one `Verify` over one `Blake3Hash`, one float `Abs` with three
`float64` conversions (the skew expression), derives the peer id by `DeterministicHashDerive`,
`Hash`, `ForNetwork`; the builder signs one `Blake3Hash`; the handshake timeout handed to
`AuthenticateAs` by `p2p/peer.go` is a positive number of seconds far below 2^53.
-/
namespace Mixin.Facts.ExpectedC30
open Mixin.Facts.Gen

theorem authenticate_skeleton :
    ["Abs*1", "Blake3Hash*1", "DeterministicHashDerive*1", "Errorf*5", "ForNetwork*1", "Hash*1", "Verify*1",
     "float64*3"].all (· ∈ kernel_Node_AuthenticateAs_calls) = true := by decide +kernel

theorem build_skeleton :
    ["Blake3Hash*1", "Sign*1", "PutUint64*1"].all (· ∈ kernel_Node_BuildAuthenticationMessage_calls) = true := by
  decide +kernel

theorem handshake_timeout_positive_seconds :
    0 < p2p_HandshakeTimeout / 1000000000 ∧ p2p_HandshakeTimeout / 1000000000 < 2 ^ 53 ∧
    p2p_HandshakeTimeout % 1000000000 = 0 := by decide +kernel

/-- **The caller's unit conversion.**  `AuthenticateAs` takes its timeout in *seconds*; the one
    place where a fresh handshake is authenticated, `p2p/peer.go: authenticateNeighbor`, must hand it
    `HandshakeTimeout` (a `time.Duration`, nanoseconds) divided by `time.Second` — exactly one call,
    with the node's own id as recipient and the received payload.  Together with
    `handshake_timeout_positive_seconds` the skew window at the real entry point is the 10 s of
    the constant, not 10 000 (milliseconds) or 10^10 (raw duration). -/
theorem handshake_passes_seconds :
    p2p_Peer_authenticateNeighbor_args.filter (·.1 == "AuthenticateAs") =
      [("AuthenticateAs", ["me.IdForNetwork", "msg.Data", "int64(HandshakeTimeout/time.Second)"])] := by
  decide +kernel

end Mixin.Facts.ExpectedC30
