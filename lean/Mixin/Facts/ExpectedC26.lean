import Mixin.Facts.Generated
import Mixin.Model.Work
/-! Facts the C26 model relies on: the day length, and `WriteRoundWork` being a single `Update`
    transaction that writes the checkpoint once and each counter kind through one write site. -/
namespace Mixin.Facts.ExpectedC26
open Mixin.Facts.Gen

example : storage_DAY_U64 = Mixin.Work.dayLen := by decide +kernel

def has (l : List String) (x : String) : Bool := l.contains x

example : (has storage_BadgerStore_WriteRoundWork_calls "Update*1" &&
    has storage_BadgerStore_WriteRoundWork_calls "graphWriteWorkOffset*1" &&
    has storage_BadgerStore_WriteRoundWork_calls "graphReadWorkOffset*1" &&
    has storage_BadgerStore_WriteRoundWork_calls "graphWriteUint64*2" &&
    has storage_BadgerStore_WriteRoundWork_calls "panic*6") = true := by decide +kernel
example : has storage_BadgerStore_WriteRoundWork_calls "NewTransaction*1" = false := by decide +kernel

/-- number of call sites of `name` in a `calls` fact (entries are `name*count`) -/
def sites (l : List String) (name : String) : Nat :=
  ((List.range 40).filter (fun n => l.contains (name ++ "*" ++ toString n))).foldl (· + ·) 0

/-- the counters are read through the update transaction: as many `graphReadUint64` sites as
    `graphWriteUint64` sites, and the closure calls no method that opens its own transaction -/
example : (sites storage_BadgerStore_WriteRoundWork_calls "graphReadUint64" ==
    sites storage_BadgerStore_WriteRoundWork_calls "graphWriteUint64") = true := by decide +kernel
example : (["ListNodeWorks", "ListWorkOffsets", "ReadWorkOffset", "ReadSnapshotWorksForNodeRound",
    "View", "NewTransaction"].all
    (fun m => sites storage_BadgerStore_WriteRoundWork_calls m == 0)) = true := by decide +kernel

end Mixin.Facts.ExpectedC26
