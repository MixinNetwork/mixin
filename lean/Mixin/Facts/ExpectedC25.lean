import Mixin.Model.Mint
/-!
Relations between the regenerated constants that the C25 theorems use. Values are not pinned:
a retuned pool, percentage or year length re-checks these relations by `decide`.
-/
namespace Mixin.Facts.ExpectedC25
open Mixin.Mint

/-- the yearly percentage is a proper fraction: `0 < den`, `num ≤ den` -/
theorem percent_le_one : 0 < params.den ∧ params.num ≤ params.den := by decide +kernel
/-- a mint year has at least one day -/
theorem days_pos : 0 < params.days := by decide +kernel
/-- the mint window is a non-empty range of hours of the day -/
theorem mint_window : mintTimeBegin ≤ mintTimeEnd ∧ mintTimeEnd < 24 := by decide +kernel

/-- the helper calls of the two schedule functions (the panic sites the model mirrors: one `Sub`
    and one `Div` per `mintBatchSize`, one `Add` per summand of `mintMultiBatchesSize`) -/
theorem schedule_calls :
    Mixin.Facts.Gen.kernel_mintBatchSize_calls = ["Div*1", "Product*2", "Sub*1", "int*1", "panic*1"] ∧
    Mixin.Facts.Gen.kernel_mintMultiBatchesSize_calls = ["Add*1", "mintBatchSize*1", "panic*1"] := by decide +kernel

end Mixin.Facts.ExpectedC25
