import Mixin.Facts.Generated
/-!
  The call skeleton the C20 model relies on, checked against the regenerated facts. Only the
  calls that carry state are pinned (store reads/writes, the in-memory update, one Badger
  transaction per storage call); logging/formatting calls are not.
-/
namespace Mixin.Facts.ExpectedC20
open Mixin.Facts.Gen

def has (l : List String) (xs : List String) : Bool := xs.all (fun x => l.contains x)

/-- round start = validate, then exactly one durable StartNewRound, then one assignment -/
theorem start_skeleton :
    has kernel_Chain_startNewRoundAndPersist_calls
      ["validateNewRound*1", "StartNewRound*1", "assignNewGraphRound*1"] = true := by decide +kernel

/-- validation closes the cache round, reads the external round once, and goes through
    updateExternal once -/
theorem validate_skeleton :
    has kernel_Chain_validateNewRound_calls ["asFinal*1", "ReadRound*1", "updateExternal*1"] = true := by
  decide +kernel

theorem empty_skeleton :
    has kernel_Chain_updateEmptyHeadRoundAndPersist_calls
      ["ReadRound*1", "updateExternal*1", "UpdateEmptyHeadRound*1", "assignNewGraphRound*1"] = true := by
  decide +kernel

/-- updateExternal compares against exactly one durable link read -/
theorem external_skeleton :
    has kernel_Chain_updateExternal_calls ["ReadLink*1", "checkReferenceSanity*1", "determineBestRound*1"] = true := by
  decide +kernel

/-- one Badger transaction per storage call; the writes of a round start: one link, two rounds -/
theorem storage_skeleton :
    has storage_BadgerStore_StartNewRound_calls ["NewTransaction*1", "Commit*1", "startNewRound*1", "readRound*3", "readLink*1"] = true ∧
    storage_startNewRound_calls = ["readRound*2", "writeLink*1", "writeRound*2"] ∧
    has storage_BadgerStore_UpdateEmptyHeadRound_calls ["NewTransaction*1", "Commit*1", "readRound*2", "writeLink*1", "writeRound*1"] = true := by
  decide +kernel

end Mixin.Facts.ExpectedC20
