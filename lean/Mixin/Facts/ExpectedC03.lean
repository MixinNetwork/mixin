import Mixin.Facts.Generated
/-! Facts C03 relies on, regenerated from the source tree on every run: every lock call is the
store mutex plus exactly one Badger update (so it is one atomic step of the model), prune
refuses finalized transactions before deleting, and the deposit key rendering. -/
namespace Mixin.Facts.ExpectedC03
open Mixin.Facts.Gen

theorem lock_calls_take_mutex :
    storage_BadgerStore_LockUTXOs_lock = "s.mutex.Lock;defer" ∧
    storage_BadgerStore_LockDepositInput_lock = "s.mutex.Lock;defer" ∧
    storage_BadgerStore_LockMintInput_lock = "s.mutex.Lock;defer" := by decide +kernel

theorem lock_calls_one_update :
    storage_BadgerStore_LockUTXOs_calls.contains "Update*1" = true ∧
    storage_BadgerStore_LockDepositInput_calls.contains "Update*1" = true ∧
    storage_BadgerStore_LockMintInput_calls.contains "Update*1" = true := by decide +kernel

/-- the fork branch of every lock goes through `pruneTransaction` exactly once -/
theorem takeover_goes_through_prune :
    storage_lockUTXO_calls.contains "pruneTransaction*1" = true ∧
    storage_BadgerStore_LockDepositInput_calls.contains "pruneTransaction*1" = true ∧
    storage_BadgerStore_LockMintInput_calls.contains "pruneTransaction*1" = true := by decide +kernel

/-- `WriteSnapshot`: mutex, one read-write transaction, one commit -/
theorem writeSnapshot_one_txn :
    storage_BadgerStore_WriteSnapshot_calls.contains "Lock*1" = true ∧
    storage_BadgerStore_WriteSnapshot_calls.contains "NewTransaction*1" = true ∧
    storage_BadgerStore_WriteSnapshot_calls.contains "Commit*1" = true := by decide +kernel

/-- `pruneTransaction`: FINALIZATION is tested first, the only write is the `Delete` of the body -/
theorem prune_body : storage_pruneTransaction_src =
    "{ key := graphFinalizationKey(hash) _, err := txn.Get(key) if err == nil { return fmt.Errorf(\"prune finalized transaction %s\", hash.String()) } else if err != badger.ErrKeyNotFound { return err } key = graphTransactionKey(hash) return txn.Delete(key) }" := by
  rfl

/-- the rendering `depositKey_inj` is about: `chain:transaction:index` with `%s:%s:%d` -/
theorem uniqueKey_body : common_DepositData_UniqueKey_src =
    "{ index := fmt.Sprintf(\"%s:%s:%d\", d.Chain, d.Transaction, d.Index) return crypto.Sha256Hash([]byte(index)).ForNetwork(d.Chain) }" := by
  rfl

end Mixin.Facts.ExpectedC03
