import Mixin.Model.Finality
/-! Call skeletons the C09 model relies on, against the regenerated facts. -/
namespace Mixin.Facts.ExpectedC09
open Mixin.Facts.Gen

/-- `verifyFinalization` consults keys, threshold and the cached verifier at most twice each (primary
    and legacy attempt) and gates the second attempt on the signer-set mode -/
theorem verify_skeleton :
    "ConsensusKeys*2" ∈ kernel_Chain_verifyFinalization_calls ∧
    "ConsensusThreshold*2" ∈ kernel_Chain_verifyFinalization_calls ∧
    "cacheVerifyCosi*2" ∈ kernel_Chain_verifyFinalization_calls ∧
    "usePredictiveNodeRemovalSignerSet*1" ∈ kernel_Chain_verifyFinalization_calls := by decide +kernel

/-- the cache key is built from two integers (threshold, mask) besides hash, signature and keys; one
    lookup, one full verification, two stores (failure marker / signer ids) -/
theorem cache_skeleton :
    "AppendUint64*2" ∈ kernel_Node_cacheVerifyCosi_calls ∧ "Get*1" ∈ kernel_Node_cacheVerifyCosi_calls ∧
    "FullVerify*1" ∈ kernel_Node_cacheVerifyCosi_calls ∧ "Set*2" ∈ kernel_Node_cacheVerifyCosi_calls := by decide +kernel

theorem fullverify_skeleton :
    "ThresholdVerify*1" ∈ crypto_CosiSignature_FullVerify_calls ∧
    "aggregatePublicKey*1" ∈ crypto_CosiSignature_FullVerify_calls ∧
    "Verify*1" ∈ crypto_CosiSignature_FullVerify_calls := by decide +kernel

theorem version_is : Mixin.Finality.genFConsts.version = common_SnapshotVersionCommonEncoding := rfl

end Mixin.Facts.ExpectedC09
