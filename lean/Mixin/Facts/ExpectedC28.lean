import Mixin.Model.ConsensusChainCodes
/-! Expectations on the regenerated facts that the C28 model and theorems rely on. -/
namespace Mixin.Facts.ExpectedC28
open Mixin.Facts Mixin.ConsensusChain

/-- case table of `IsSnapshotBatchable`: four fall-through classes, `default` returns false -/
theorem batchable_table :
    Gen.common_SignedTransaction_IsSnapshotBatchable_switch =
      [(["TransactionTypeScript"], ""), (["TransactionTypeDeposit"], ""),
       (["TransactionTypeWithdrawalSubmit"], ""), (["TransactionTypeWithdrawalClaim"], ""),
       (["default"], "false")] := by decide +kernel

/-- case table of `validateConsensusTransactionReferences`: seven consensus classes fall
    through to the reference rule, everything else returns nil -/
theorem reference_table :
    Gen.kernel_Node_validateConsensusTransactionReferences_switch =
      [(["common.TransactionTypeMint"], ""), (["common.TransactionTypeNodePledge"], ""),
       (["common.TransactionTypeNodeCancel"], ""), (["common.TransactionTypeNodeAccept"], ""),
       (["common.TransactionTypeNodeRemove"], ""), (["common.TransactionTypeCustodianUpdateNodes"], ""),
       (["common.TransactionTypeCustodianSlashNodes"], ""), (["default"], "nil")] := by decide +kernel

/-- the writer's class list is the same seven classes -/
theorem writer_table :
    Gen.kernel_Node_WriteConsensusSnapshotWithHack_switch =
      [(["common.TransactionTypeNodePledge", "common.TransactionTypeNodeCancel",
         "common.TransactionTypeNodeAccept", "common.TransactionTypeNodeRemove",
         "common.TransactionTypeMint", "common.TransactionTypeCustodianUpdateNodes",
         "common.TransactionTypeCustodianSlashNodes"], ""), (["default"], "")] := by decide +kernel

/-- `WriteConsensusSnapshot` is one Badger write transaction around `writeConsensusSnapshot` -/
theorem writer_single_txn :
    Gen.storage_BadgerStore_WriteConsensusSnapshot_calls =
      ["Commit*1", "Discard*1", "NewTransaction*1", "writeConsensusSnapshot*1"] := by decide +kernel

/-- the relation between the codes that the theorems use: no consensus class is batchable -/
theorem realCodes_ok : ∀ t, isConsensusType realCodes t = true → isBatchable realCodes t = false := by
  intro t h
  simp [isConsensusType, isBatchable, realCodes, Gen.common_TransactionTypeMint,
    Gen.common_TransactionTypeNodePledge, Gen.common_TransactionTypeNodeCancel,
    Gen.common_TransactionTypeNodeAccept, Gen.common_TransactionTypeNodeRemove,
    Gen.common_TransactionTypeCustodianUpdateNodes, Gen.common_TransactionTypeCustodianSlashNodes,
    Gen.common_TransactionTypeScript, Gen.common_TransactionTypeDeposit,
    Gen.common_TransactionTypeWithdrawalSubmit, Gen.common_TransactionTypeWithdrawalClaim] at *
  omega

/-- `validateSnapshotTransaction` runs the kernel snapshot rule in both branches (persisted body
    and cached body) and persists only in the cached one -/
theorem vst_calls_kernel_rule_in_both_branches :
    "validateKernelSnapshot*2" ∈ Gen.kernel_Node_validateSnapshotTransaction_calls ∧
      "lockAndPersistTransaction*1" ∈ Gen.kernel_Node_validateSnapshotTransaction_calls := by decide +kernel

/-- the output types for which `writeUTXO` applies state: the five membership / custodian
    types of `OType.consensusEffect` in `Model/ConsensusEffects.lean`, and the withdrawal claim
    record (no membership or custodian state) -/
theorem writeUTXO_effect_types :
    Gen.storage_writeUTXO_switch.map (·.1) =
      [["common.OutputTypeNodePledge"], ["common.OutputTypeNodeCancel"], ["common.OutputTypeNodeAccept"],
       ["common.OutputTypeNodeRemove"], ["common.OutputTypeCustodianUpdateNodes"],
       ["common.OutputTypeWithdrawalClaim"]] := by decide +kernel

/-- `TransactionType()`: the class is the class of the first special output -/
theorem transactionType_table :
    Gen.common_SignedTransaction_TransactionType_switch =
      [(["OutputTypeWithdrawalSubmit"], "TransactionTypeWithdrawalSubmit"),
       (["OutputTypeWithdrawalClaim"], "TransactionTypeWithdrawalClaim"),
       (["OutputTypeNodePledge"], "TransactionTypeNodePledge"),
       (["OutputTypeNodeCancel"], "TransactionTypeNodeCancel"),
       (["OutputTypeNodeAccept"], "TransactionTypeNodeAccept"),
       (["OutputTypeNodeRemove"], "TransactionTypeNodeRemove"),
       (["OutputTypeCustodianUpdateNodes"], "TransactionTypeCustodianUpdateNodes"),
       (["OutputTypeCustodianSlashNodes"], "TransactionTypeCustodianSlashNodes")] := by decide +kernel

/-- `UnspentOutputs()`: which output types finalization materialises (and hands to `writeUTXO`) -/
theorem unspentOutputs_table :
    Gen.common_VersionedTransaction_UnspentOutputs_switch.map (·.1) =
      [["OutputTypeScript", "OutputTypeNodePledge", "OutputTypeNodeCancel", "OutputTypeNodeAccept",
        "OutputTypeNodeRemove", "OutputTypeWithdrawalClaim", "OutputTypeCustodianUpdateNodes"],
       ["OutputTypeWithdrawalSubmit", "OutputTypeCustodianSlashNodes"], ["default"]] := by decide +kernel

end Mixin.Facts.ExpectedC28
