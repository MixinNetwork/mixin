import Mixin.Facts.Generated
import Mixin.Model.PeerMsg
/-!
Facts of the source tree the C08 model and theorems rely on, compared with the regenerated
`Mixin.Facts.Gen` on every run: the message type codes, the size constants of the payload /
sync point codecs, the case table of `parseNetworkMessage` (a new `case` needs a model), and
the number of `CheckKey` call sites in it (one per point that must be valid).
-/
namespace Mixin.Facts.ExpectedC08
open Mixin.Facts.Gen Mixin.PeerMsg

theorem type_codes :
    [tPing, tAuthentication, tGraph, tSnapshotConfirm, tTransactionRequest, tTransaction, tTransactionBundle,
     tFinalizedTransactionBundle, tPreCommitments, tAnnouncement, tCommitment, tTransactionChallenge, tResponse,
     tFullChallenge, tFinalization, tRelay, tConsumers].map UInt8.toNat =
    [p2p_PeerMessageTypePing, p2p_PeerMessageTypeAuthentication, p2p_PeerMessageTypeGraph,
     p2p_PeerMessageTypeSnapshotConfirm, p2p_PeerMessageTypeTransactionRequest, p2p_PeerMessageTypeTransaction,
     p2p_PeerMessageTypeTransactionBundle, p2p_PeerMessageTypeFinalizedTransactionBundle,
     p2p_PeerMessageTypePreCommitments, p2p_PeerMessageTypeBatchSnapshotAnnouncement,
     p2p_PeerMessageTypeBatchSnapshotCommitment, p2p_PeerMessageTypeBatchTransactionChallenge,
     p2p_PeerMessageTypeBatchSnapshotResponse, p2p_PeerMessageTypeBatchFullChallenge,
     p2p_PeerMessageTypeBatchSnapshotFinalization, p2p_PeerMessageTypeRelay, p2p_PeerMessageTypeConsumers] := by
  decide +kernel

theorem codec_constants :
    snapshotTransactionsMaximum = common_SnapshotTransactionsMaximum ∧
    maximumEncodingInt = common_MaximumEncodingInt ∧
    minimumHeader = [0x77, 0x77, 0x00, UInt8.ofNat common_MinimumEncodingVersion] := by
  decide +kernel

/-- every byte string the transport delivers is far below the 2^32 bound of the size fields -/
theorem transport_limit : p2p_TransportMessageMaxSize < 2 ^ 32 - 4 := by decide +kernel

theorem case_table :
    p2p_parseNetworkMessage_switch.map (·.1) =
    [["PeerMessageTypePreCommitments"], ["PeerMessageTypeGraph"], ["PeerMessageTypePing"],
     ["PeerMessageTypeAuthentication"], ["PeerMessageTypeSnapshotConfirm"], ["PeerMessageTypeTransaction"],
     ["PeerMessageTypeTransactionBundle", "PeerMessageTypeFinalizedTransactionBundle"],
     ["PeerMessageTypeTransactionRequest"], ["PeerMessageTypeBatchSnapshotAnnouncement"],
     ["PeerMessageTypeBatchSnapshotCommitment"], ["PeerMessageTypeBatchFullChallenge"],
     ["PeerMessageTypeBatchTransactionChallenge"], ["PeerMessageTypeBatchSnapshotResponse"],
     ["PeerMessageTypeBatchSnapshotFinalization"], ["PeerMessageTypeRelay"], ["PeerMessageTypeConsumers"]] := by
  decide +kernel

theorem check_key_sites : "CheckKey*5" ∈ p2p_parseNetworkMessage_calls := by decide +kernel

end Mixin.Facts.ExpectedC08
