import Mixin.Facts.Generated
/-!
  Regenerated facts the C05 proof relies on: which panicking helpers (`Integer.Add/Sub/Mul/Div/Count`,
  `panic`) each function of the validation call tree calls. The model has one `panic site` per
  entry (or a proof that it cannot fire); a new call to such a helper breaks this file, hence the
  build of Props/C05. Counts of Errorf/len/… are not pinned.
-/
namespace Mixin.Facts.ExpectedC05
open Mixin.Facts.Gen

/-- entries `Name*count` of the panicking helpers (up to nine calls each) -/
def risky : List String := ["Add*1", "Add*2", "Add*3", "Add*4", "Add*5", "Add*6", "Add*7", "Add*8", "Add*9", "Sub*1", "Sub*2", "Sub*3", "Sub*4", "Sub*5", "Sub*6", "Sub*7", "Sub*8", "Sub*9", "Mul*1", "Mul*2", "Mul*3", "Mul*4", "Mul*5", "Mul*6", "Mul*7", "Mul*8", "Mul*9", "Div*1", "Div*2", "Div*3", "Div*4", "Div*5", "Div*6", "Div*7", "Div*8", "Div*9", "Count*1", "Count*2", "Count*3", "Count*4", "Count*5", "Count*6", "Count*7", "Count*8", "Count*9", "panic*1", "panic*2", "panic*3", "panic*4", "panic*5", "panic*6", "panic*7", "panic*8", "panic*9", "Product*1", "Product*2", "Product*3", "Product*4", "Product*5", "Product*6", "Product*7", "Product*8", "Product*9", "Ration*1", "Ration*2", "Ration*3", "Ration*4", "Ration*5", "Ration*6", "Ration*7", "Ration*8", "Ration*9"]

def panicky (l : List String) : List String := l.filter (fun s => risky.contains s)

theorem getExtraLimit_calls :
    panicky common_SignedTransaction_GetExtraLimit_calls = ["Count*1", "Mul*1", "panic*1"] := by decide +kernel
theorem validateUTXO_calls : panicky common_validateUTXO_calls = [] := by decide +kernel
theorem validateInputs_calls : panicky common_SignedTransaction_validateInputs_calls = ["Add*1"] := by decide +kernel
theorem validateOutputs_calls : panicky common_Transaction_validateOutputs_calls = ["Add*1"] := by decide +kernel
theorem validate_calls : panicky common_VersionedTransaction_Validate_calls = [] := by decide +kernel
theorem verifyDepositData_calls : panicky common_Transaction_verifyDepositData_calls = ["Add*1"] := by decide +kernel

end Mixin.Facts.ExpectedC05
