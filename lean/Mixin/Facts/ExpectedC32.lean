import Mixin.Facts.Generated
import Mixin.Model.Base58
import Mixin.Model.Keys
/-! Constants the C32 models rely on, tied to the regenerated facts. -/
namespace Mixin.Facts.ExpectedC32
open Mixin.Facts.Gen

theorem facts_ok :
    util_base58_alphabet.toList.map Char.toNat = Mixin.Base58.alphabetNat ∧
    util_base58_alphabetIdx0 = Mixin.Base58.idx0.toNat ∧
    common_MainAddressPrefix.toList.map (fun c => c.toNat.toUInt8) = Mixin.Keys.prefixXIN := by decide +kernel

end Mixin.Facts.ExpectedC32
