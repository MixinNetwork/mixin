import Mixin.Facts.Generated
/-!
  C24 — `shouldRequeueSelfAnnouncement` decides by substring match on error texts. The regenerated
  fact lists its literals with whether each still occurs in a string literal of another kernel
  function; the proofs' error class "finalized elsewhere ⇒ requeue" needs all of them produced.
-/
namespace Mixin.Facts.ExpectedC24
open Mixin.Facts

/-- every text the matcher looks for is produced somewhere in the package, and there is one -/
theorem matcher_texts_produced :
    (Gen.kernel_shouldRequeueSelfAnnouncement_litcover.all (·.2)) = true ∧
    Gen.kernel_shouldRequeueSelfAnnouncement_litcover.length ≥ 1 := by decide +kernel

end Mixin.Facts.ExpectedC24
