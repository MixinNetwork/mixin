import Mixin.Facts.Generated
import Mixin.Model.Ledger
/-! C17: the two case tables the supply theorems rest on, regenerated from the source and compared with
    the tables of the model (`Ledger.materialised`, `Ledger.newTotal`). -/
namespace Mixin.Facts.ExpectedC17
open Mixin.Facts.Gen Mixin.Ledger

def ofName : String → OutType
  | "OutputTypeScript" => .script
  | "OutputTypeWithdrawalSubmit" => .withdrawalSubmit
  | "OutputTypeWithdrawalClaim" => .withdrawalClaim
  | "OutputTypeNodePledge" => .nodePledge
  | "OutputTypeNodeAccept" => .nodeAccept
  | "OutputTypeNodeCancel" => .nodeCancel
  | "OutputTypeNodeRemove" => .nodeRemove
  | "OutputTypeCustodianUpdateNodes" => .custodianUpdate
  | "OutputTypeCustodianSlashNodes" => .custodianSlash
  | _ => .unknown

/-- `UnspentOutputs()`: three clauses — materialise (fall out of the switch), `continue`, `panic` — and the
    model's table says the same for every label -/
theorem unspentOutputs_table :
    common_VersionedTransaction_UnspentOutputs_casebody.map (·.2) = ["", "continue", "panic(out.Type)"] ∧
    (common_VersionedTransaction_UnspentOutputs_casebody.map (fun r => r.1.map (fun l => materialised (ofName l)))) =
      [[some true, some true, some true, some true, some true, some true, some true],
       [some false, some false], [none]] := by decide +kernel

/-- every output type constant of the code is classified by one of the two explicit clauses -/
theorem unspentOutputs_covers_all_types :
    (common_VersionedTransaction_UnspentOutputs_casebody.flatMap (·.1)).length = 10 ∧
    ([common_OutputTypeScript, common_OutputTypeWithdrawalSubmit, common_OutputTypeWithdrawalClaim,
      common_OutputTypeNodePledge, common_OutputTypeNodeAccept, common_OutputTypeNodeCancel, common_OutputTypeNodeRemove,
      common_OutputTypeCustodianUpdateNodes, common_OutputTypeCustodianSlashNodes].eraseDups.length = 9) := by decide +kernel

/-- `writeTotalInAsset`: the order of the clauses and what each does to `total` (the model's `newTotal`
    follows exactly these five clauses) -/
theorem writeTotal_table :
    storage_writeTotalInAsset_casebody =
      [(["typ == common.TransactionTypeWithdrawalSubmit"],
        "for _, o := range ver.Outputs { if o.Type == common.OutputTypeWithdrawalSubmit { total = total.Sub(o.Amount) } }"),
       (["typ == common.TransactionTypeDeposit"], "total = total.Add(ver.DepositData().Amount)"),
       (["typ == common.TransactionTypeMint"], "total = total.Add(ver.Inputs[0].Mint.Amount)"),
       (["len(ver.Inputs[0].Genesis) > 0"], "for _, out := range ver.Outputs { total = total.Add(out.Amount) }"),
       (["default"], "return nil")] := by decide +kernel

end Mixin.Facts.ExpectedC17
