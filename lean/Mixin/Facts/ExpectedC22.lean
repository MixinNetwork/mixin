import Mixin.Facts.Generated
/-!
  C21/C22 rely on "every storage method is ONE atomic commit" (the harness can only cut at call
  boundaries). Regenerated from the source on every run: each modelled method opens exactly one
  Badger write transaction and commits it exactly once (`NewTransaction*1`/`Commit*1`, or one
  `Update` closure), so splitting a method into two commits breaks this file.
-/
namespace Mixin.Facts.ExpectedC22
open Mixin.Facts.Gen

def oneTxn (calls : List String) : Bool :=
  (calls.contains "NewTransaction*1" && calls.contains "Commit*1" && !calls.contains "Update*1") ||
  (calls.contains "Update*1" && !calls.contains "NewTransaction*1" && !calls.contains "Commit*1")

theorem single_commit_methods :
    oneTxn storage_BadgerStore_StartNewRound_calls = true ∧
    oneTxn storage_BadgerStore_WriteSnapshot_calls = true ∧
    oneTxn storage_BadgerStore_WriteTransaction_calls = true ∧
    oneTxn storage_BadgerStore_WriteConsensusSnapshot_calls = true ∧
    oneTxn storage_BadgerStore_LockUTXOs_calls = true ∧
    oneTxn storage_BadgerStore_LockDepositInput_calls = true ∧
    oneTxn storage_BadgerStore_LockMintInput_calls = true ∧
    oneTxn storage_BadgerStore_LoadGenesis_calls = true := by decide +kernel

/-- the finalization write keeps snapshot, finalization records and topology in the one commit -/
theorem writeSnapshot_one_commit :
    storage_BadgerStore_WriteSnapshot_calls.contains "writeSnapshot*1" = true ∧
    storage_BadgerStore_StartNewRound_calls.contains "startNewRound*1" = true ∧
    storage_openDB_calls.contains "WithSyncWrites*1" = true := by decide +kernel

end Mixin.Facts.ExpectedC22
