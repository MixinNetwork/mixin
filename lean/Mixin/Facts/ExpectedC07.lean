import Mixin.Facts.Generated
/-! Facts the C07 theorems rely on, compared with the values regenerated from the source. -/
namespace Mixin.Facts.ExpectedC07
open Mixin.Facts.Gen

/-- the only snapshot version; its byte is what `checkSnapVersion` compares with -/
theorem snapshotVersion : common_SnapshotVersionCommonEncoding = 2 := by decide +kernel
/-- "1 to 255 transactions" in the property text -/
theorem snapshotTransactionsMaximum : common_SnapshotTransactionsMaximum = 255 := by decide +kernel
/-- the count is written with `WriteInt`, which panics above this bound -/
theorem countFitsEncodingInt : common_SnapshotTransactionsMaximum ≤ common_MaximumEncodingInt := by decide +kernel

end Mixin.Facts.ExpectedC07
