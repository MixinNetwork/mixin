import Mixin.Facts.Generated
/-! Facts the C23 model relies on: every cache method is exactly one Badger transaction
    (`Update`, or `NewTransaction` + `Commit`), and the three key spaces have different prefixes. -/
namespace Mixin.Facts.ExpectedC23
open Mixin.Facts.Gen

def has (l : List String) (x : String) : Bool := l.contains x

example : has storage_BadgerStore_CacheRetrieveTransactions_calls "Update*1" = true := by decide +kernel
example : has storage_BadgerStore_CacheRetrieveTransactions_calls "NewTransaction*1" = false := by decide +kernel
example : has storage_BadgerStore_CacheRemoveTransactions_calls "Update*1" = true := by decide +kernel
example : has storage_BadgerStore_CacheRemoveTransactions_calls "Delete*2" = true := by decide +kernel
example : (has storage_BadgerStore_cacheQueueTransaction_calls "NewTransaction*1" &&
    has storage_BadgerStore_cacheQueueTransaction_calls "Commit*1" &&
    has storage_BadgerStore_cacheQueueTransaction_calls "SetEntry*3" &&
    has storage_BadgerStore_cacheQueueTransaction_calls "Get*1") = true := by decide +kernel
example : (has storage_BadgerStore_cacheStoreTransaction_calls "NewTransaction*1" &&
    has storage_BadgerStore_cacheStoreTransaction_calls "Commit*1" &&
    has storage_BadgerStore_cacheStoreTransaction_calls "SetEntry*1" &&
    has storage_BadgerStore_cacheStoreTransaction_calls "Get*1") = true := by decide +kernel
example : storage_cachePrefixTransactionQueue ≠ storage_cachePrefixTransactionOrder ∧
    storage_cachePrefixTransactionQueue ≠ storage_cachePrefixTransactionCache ∧
    storage_cachePrefixTransactionOrder ≠ storage_cachePrefixTransactionCache := by decide +kernel

end Mixin.Facts.ExpectedC23
