import Mixin.Model.Batch
/-!
  C31 — what the proofs need from the regenerated facts. Only relations are pinned, so a
  retuned limit that keeps them is not an alarm; a limit that breaks one breaks this file.
-/
namespace Mixin.Facts.ExpectedC31
open Mixin.Batch

/-- the largest header any builder puts in front of a transactions payload
    (full challenge: type, u32, snapshot with references and signature, two keys) -/
def hdrMax (cap : Nat) : Nat := 1 + 4 + snapshotSize true true cap + 64

/-- a full batch below the batching threshold, wrapped by the largest builder header and the
    relay header, fits the transport maximum -/
theorem batch_room :
    threshold maxSize + 4 * snapTxMax + 1 + hdrMax snapTxMax + 65 ≤ maxSize := by decide +kernel

/-- a single transaction of maximal admitted size, wrapped the same way, fits -/
theorem single_room : txMax + 4 * snapTxMax + 1 + hdrMax snapTxMax + 65 ≤ maxSize := by decide +kernel

/-- the transaction count of a bundle is written as one byte -/
theorem count_fits_byte : snapTxMax ≤ 255 := by decide +kernel

/-- the frame header carries the size as an unsigned 32-bit integer and the version as a byte -/
theorem max_fits_u32 : maxSize < 4294967296 := by decide +kernel
theorem version_fits_byte : frameVersion < 256 := by decide +kernel
theorem header_is_six : headerSize = 6 := by decide +kernel
theorem max_pos : 0 < maxSize := by decide +kernel

end Mixin.Facts.ExpectedC31
