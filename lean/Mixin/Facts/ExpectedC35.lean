import Mixin.Facts.Generated
/-! Facts the C35 model relies on: `TopoWrite` takes the counter mutex once and calls
    `WriteSnapshot` once; `WriteSnapshot` is one transaction under the store mutex;
    `writeTopology` checks the order key once and writes exactly the two index records;
    the counter is initialised from `LastSnapshot`. -/
namespace Mixin.Facts.ExpectedC35
open Mixin.Facts.Gen

def has (l : List String) (x : String) : Bool := l.contains x

example : (has kernel_Node_TopoWrite_calls "Lock*1" && has kernel_Node_TopoWrite_calls "Unlock*1" &&
    has kernel_Node_TopoWrite_calls "WriteSnapshot*1") = true := by decide +kernel
example : (has storage_BadgerStore_WriteSnapshot_calls "Lock*1" &&
    has storage_BadgerStore_WriteSnapshot_calls "Unlock*1" &&
    has storage_BadgerStore_WriteSnapshot_calls "NewTransaction*1" &&
    has storage_BadgerStore_WriteSnapshot_calls "Commit*1" &&
    has storage_BadgerStore_WriteSnapshot_calls "writeSnapshot*1") = true := by decide +kernel
example : (has storage_writeTopology_calls "Get*1" && has storage_writeTopology_calls "Set*2" &&
    has storage_writeTopology_calls "panic*1") = true := by decide +kernel
example : has kernel_Node_getTopologyCounter_calls "LastSnapshot*1" = true := by decide +kernel

end Mixin.Facts.ExpectedC35
