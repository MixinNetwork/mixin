import Mixin.Facts.Generated
import Mixin.Model.TxCodec
/-! The constants the C06 model and theorems rely on, compared with the values regenerated
    from the source tree on every run. A changed limit breaks the build of `Mixin.Props.C06`. -/
namespace Mixin.Facts.ExpectedC06
open Mixin.Facts.Gen Mixin.TxCodec

theorem txVersion_eq : txVersion.toNat = common_TxVersionHashSignature := by decide +kernel
theorem sliceCountLimit_eq : sliceCountLimit = common_SliceCountLimit := by decide +kernel
theorem inputIndexLimit_eq : inputIndexLimit = common_InputIndexLimit := by decide +kernel
theorem extraCapacity_eq : extraCapacity = common_ExtraSizeStorageCapacity := by decide +kernel
theorem maxEncodingInt_eq : maxEncodingInt = common_MaximumEncodingInt := by decide +kernel
theorem aggPrefix_eq : aggPrefix = common_AggregatedSignaturePrefix := by decide +kernel
theorem txMaxSize_eq : txMaxSize = config_TransactionMaximumSize := by decide +kernel
theorem maskKinds : common_AggregatedSignatureSparseMask = 1 ∧ common_AggregatedSignatureOrdinaryMask = 0 := by decide +kernel

/-! The skeletons the theorems rely on: `unmarshalVersionedTransaction` decodes, re-encodes
    (`marshalWithCapacity`) and compares (`bytes.Equal`); `payloadMarshal` encodes a freshly
    built `SignedTransaction` (no signatures); `PayloadHash` hashes `PayloadMarshal`. -/
theorem unmarshal_skeleton :
    ["DecodeTransaction*1", "Equal*1", "marshalWithCapacity*1"].all
      (fun c => common_unmarshalVersionedTransaction_calls.contains c) = true := by decide +kernel
theorem payloadMarshal_skeleton :
    common_VersionedTransaction_payloadMarshal_calls = ["EncodeTransaction*1", "NewEncoder*1", "panic*1"] := by decide +kernel
theorem payloadHash_skeleton :
    ["Blake3Hash*1", "PayloadMarshal*1"].all
      (fun c => common_VersionedTransaction_PayloadHash_calls.contains c) = true := by decide +kernel

end Mixin.Facts.ExpectedC06
