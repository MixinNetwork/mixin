import Mixin.Model.Membership
/-!
Constant relations and call skeletons the C10 (and C09/C11) theorems rely on, checked against the
facts regenerated from the source tree. Values are not pinned, only the relations used.
-/
namespace Mixin.Facts.ExpectedC10
open Mixin.Membership Mixin.Facts.Gen

/-- an accepted node that is old enough to sign (`KernelNodeAcceptPeriodMinimum`) is old enough to
    be counted in the threshold base (`SnapshotReferenceThreshold · SnapshotRoundGap`) -/
theorem maturity_le : genConsts.refThr * genConsts.roundGap ≤ genConsts.acceptMin := by decide +kernel

/-- the "below minimum" threshold 1000 is out of reach of any membership below the minimum -/
theorem min_le_sentinel : genConsts.minNodes < 1000 := by decide +kernel

/-- the two constant-only `panic`s of `ConsensusThreshold` are unreachable and its `uint64`
    subtraction does not wrap -/
theorem no_panic : genConsts.refThr * genConsts.roundGap ≤ 3 * 60 * 1000000000 ∧
    genConsts.hour ≤ genConsts.acceptMin ∧ genConsts.refThr * genConsts.roundGap * 3 ≤ genConsts.acceptMin := by decide +kernel

/-- a day is 24 hours, the accept window lies within a day -/
theorem window_ok : genConsts.oneDay = 24 * genConsts.hour ∧ genConsts.acceptBegin ≤ genConsts.acceptEnd ∧
    genConsts.acceptEnd < 24 := by decide +kernel

/-- both the threshold and the signer set consult the same predictive removal candidate -/
theorem same_removal_rule :
    ("removingOrSlashingNodeAt*1" ∈ kernel_Node_ConsensusThreshold_calls ∧
     "usePredictiveNodeRemovalSignerSet*1" ∈ kernel_Node_ConsensusThreshold_calls) ∧
    ("removingOrSlashingNodeAt*1" ∈ kernel_Chain_consensusNodes_calls ∧
     "usePredictiveNodeRemovalSignerSet*1" ∈ kernel_Chain_consensusNodes_calls ∧
     "ConsensusReady*1" ∈ kernel_Chain_consensusNodes_calls ∧
     "IsPledging*1" ∈ kernel_Chain_consensusNodes_calls) := by decide +kernel

end Mixin.Facts.ExpectedC10
