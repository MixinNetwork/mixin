import Mixin.Facts.Generated
/-!
Expectations of property C12 about the regenerated source facts (see harness/extract.go).
The model `Mixin.Nonce.respond` is one atomic step *because* of these: `nonce.respond` takes
`n.Lock()` before it mentions any field of the nonce state (`prelock=` is empty: only the
arguments are used to compute the challenge), releases it only by `defer`, and the exported
handle method does nothing but delegate to the shared `*nonce`.
-/
namespace Mixin.Facts.ExpectedC12
open Mixin.Facts

theorem respond_lock_first : Gen.crypto_nonce_respond_lockorder = "n.Lock;defer;prelock=" := by decide +kernel

theorem respond_one_lock :
    "Lock*1" ∈ Gen.crypto_nonce_respond_calls ∧ "Unlock*1" ∈ Gen.crypto_nonce_respond_calls := by decide +kernel

theorem handle_delegates : Gen.crypto_CosiNonce_Response_calls = ["respond*1"] := by decide +kernel

/-- the chain hands a nonce out by moving it from `CosiRandoms` to `UsedRandoms` -/
theorem retrieve_moves :
    "retainUsedCosiNonce*1" ∈ Gen.kernel_Chain_cosiRetrieveRandom_calls ∧
    "delete*1" ∈ Gen.kernel_Chain_cosiRetrieveRandom_calls := by decide +kernel

end Mixin.Facts.ExpectedC12
