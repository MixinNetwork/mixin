import Mixin.Facts.Generated
/-!
  Facts the C19 theorems rely on, checked against the regenerated `Mixin.Facts.Gen`:
  only the relations used, not the values (harmless retuning of the gap is not an alarm).
-/
namespace Mixin.Facts.ExpectedC19
open Mixin.Facts.Gen

/-- a single snapshot spans less than a gap -/
theorem gap_pos : 0 < config_SnapshotRoundGap := by decide +kernel

/-- day arithmetic is a real division -/
theorem day_pos : 0 < kernel_OneDay := by decide +kernel

/-- a round (shorter than a gap) can straddle at most one day boundary -/
theorem gap_lt_day : config_SnapshotRoundGap < kernel_OneDay := by decide +kernel

/-- closing a round goes through `common.ComputeRoundHash` (whose assertion `close_never_fails`
    speaks about) -/
theorem asFinal_calls_compute : kernel_CacheRound_asFinal_calls.contains "ComputeRoundHash*1" = true := by
  decide +kernel

end Mixin.Facts.ExpectedC19
