import Mixin.Facts.Generated
/-! C15: the write-transaction skeleton of `BadgerStore.WriteSnapshot`, regenerated from the source.
    One `NewTransaction`, one deferred `Discard`, one `Commit`; none of the functions it reaches
    opens, commits or updates a transaction of its own (they write through the `txn` they are given). -/
namespace Mixin.Facts.ExpectedC15
open Mixin.Facts.Gen

def pre (p c : String) : Bool := p.toList.isPrefixOf c.toList

def opensTxn (c : String) : Bool :=
  pre "NewTransaction*" c || pre "Commit*" c || pre "Update*" c ||
  pre "View*" c || pre "NewWriteBatch*" c || pre "Discard*" c

theorem writeSnapshot_one_txn :
    storage_BadgerStore_WriteSnapshot_calls.filter opensTxn = ["Commit*1", "Discard*1", "NewTransaction*1"] ∧
    "Lock*1" ∈ storage_BadgerStore_WriteSnapshot_calls ∧ "Unlock*1" ∈ storage_BadgerStore_WriteSnapshot_calls ∧
    "writeSnapshot*1" ∈ storage_BadgerStore_WriteSnapshot_calls ∧
    "writeSnapshotWork*1" ∈ storage_BadgerStore_WriteSnapshot_calls := by decide +kernel

theorem inner_functions_use_callers_txn :
    (storage_writeSnapshot_calls ++ storage_finalizeTransaction_calls ++ storage_writeUTXO_calls ++
     storage_writeTotalInAsset_calls ++ storage_writeAssetInfo_calls ++ storage_writeTopology_calls ++
     storage_writeSnapshotWork_calls ++ storage_lockGhostKey_calls ++ storage_writeWithdrawalClaim_calls).filter opensTxn
      = [] := by decide +kernel

/-- the call skeleton the model's `finalizeAll` / `finalizeTransaction` follow -/
theorem skeleton :
    "finalizeTransaction*1" ∈ storage_writeSnapshot_calls ∧ "writeTopology*1" ∈ storage_writeSnapshot_calls ∧
    "writeAssetInfo*1" ∈ storage_finalizeTransaction_calls ∧ "writeUTXO*1" ∈ storage_finalizeTransaction_calls ∧
    "writeTotalInAsset*1" ∈ storage_finalizeTransaction_calls ∧ "UnspentOutputs*1" ∈ storage_finalizeTransaction_calls ∧
    "lockGhostKey*1" ∈ storage_writeUTXO_calls ∧ "writeWithdrawalClaim*1" ∈ storage_writeUTXO_calls := by decide +kernel

/-- the database is touched only under the store mutex: the statements of `WriteSnapshot` before
    `s.mutex.Lock()` mention no field of the store (in particular they do not open the Badger transaction,
    whose read view would then predate the writers queued in front of it) -/
theorem writeSnapshot_locks_before_reading :
    storage_BadgerStore_WriteSnapshot_lockorder = "s.mutex.Lock;defer;prelock=" := by decide +kernel

/-- the options of the database: conflict detection is not switched off (a queued writer with a stale view
    must fail with `ErrConflict`, not overwrite) and nothing else about transactions is configured -/
theorem openDB_keeps_conflict_detection :
    storage_openDB_calls.filter (fun c => pre "WithDetectConflicts" c || pre "WithManaged" c) = [] := by decide +kernel

end Mixin.Facts.ExpectedC15
