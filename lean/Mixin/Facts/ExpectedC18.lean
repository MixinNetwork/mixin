import Mixin.Facts.Generated
/-! Facts the C18 theorems rely on: only relations of `config.SnapshotRoundGap`, not its value. -/
namespace Mixin.Facts.ExpectedC18
open Mixin.Facts.Gen

/-- a round of one snapshot is always inside the gap -/
theorem roundGap_pos : 0 < config_SnapshotRoundGap := by decide +kernel
/-- `start + SnapshotRoundGap` is computed in uint64 -/
theorem roundGap_lt : config_SnapshotRoundGap < 2 ^ 64 := by decide +kernel

/-- the validator's round hash touches no package-level variable of `storage` (it runs in one
    goroutine per node: shared scratch state would make its result depend on the schedule) -/
theorem validator_uses_no_package_variable : storage_computeRoundHash_globals = [] := by decide +kernel
/-- neither does the live node's -/
theorem common_uses_no_package_variable : common_ComputeRoundHash_globals = [] := by decide +kernel

end Mixin.Facts.ExpectedC18
