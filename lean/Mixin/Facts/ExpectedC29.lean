import Mixin.Model.Election
/-!
Relations between the regenerated constants that the C29 theorems use (values are not pinned).
-/
namespace Mixin.Facts.ExpectedC29
open Mixin.Election

/-- after dropping the oldest and the newest accepted node something is left to elect -/
theorem min_nodes : 3 ≤ minNodes := by decide +kernel
/-- the windows are ordered inside one day: mint window, then accept window -/
theorem windows_ordered : mintBegin ≤ mintEnd ∧ mintEnd < acceptBegin ∧ acceptBegin ≤ acceptEnd ∧ acceptEnd < 24 := by decide +kernel
/-- `electSnapshotNode` elects for removals, pledges, mints and custodian updates -/
theorem remove_elected : electOps.contains Gen.common_TransactionTypeNodeRemove = true ∧
    electOps.contains Gen.common_TransactionTypeNodePledge = true ∧
    electOps.contains Gen.common_TransactionTypeMint = true ∧
    electOps.contains Gen.common_TransactionTypeCustodianUpdateNodes = true := by decide +kernel
/-- a day is 24 hours of the unit the hour computations use -/
theorem day_is_24h : oneDay = 24 * hourNs := by decide +kernel

/-- the case table of `electSnapshotNode`: exactly the five operation codes of `electOps` fall
    through to the election, everything else returns the zero hash -/
theorem elect_table : Gen.kernel_Node_electSnapshotNode_switch =
    [(["common.TransactionTypeMint"], ""), (["common.TransactionTypeNodeRemove"], ""),
     (["common.TransactionTypeNodePledge"], ""), (["common.TransactionTypeCustodianUpdateNodes"], ""),
     (["common.TransactionTypeCustodianSlashNodes"], ""), (["default"], "crypto.Hash{}")] := by decide +kernel

end Mixin.Facts.ExpectedC29
