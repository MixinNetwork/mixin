import Mixin.Facts.Generated
/-! Facts C04 relies on, regenerated from the source tree on every run. -/
namespace Mixin.Facts.ExpectedC04
open Mixin.Facts.Gen

/-- `LockGhostKeys` takes the store mutex first and releases it by `defer` -/
theorem lockGhostKeys_mutex : storage_BadgerStore_LockGhostKeys_lock = "s.mutex.Lock;defer" := by decide +kernel

/-- … and runs exactly one Badger `Update`, calling `lockGhostKey` from one place -/
theorem lockGhostKeys_one_update :
    storage_BadgerStore_LockGhostKeys_calls.contains "Update*1" = true ∧
    storage_BadgerStore_LockGhostKeys_calls.contains "lockGhostKey*1" = true := by decide +kernel

/-- `writeUTXO` relocks the keys through `lockGhostKey` and has a single `Set` (the UTXO itself) -/
theorem writeUTXO_relocks :
    storage_writeUTXO_calls.contains "lockGhostKey*1" = true ∧ storage_writeUTXO_calls.contains "Set*1" = true := by
  decide +kernel

/-- the body of `lockGhostKey`: the only `Set` is on `ErrKeyNotFound`; the three fork exceptions -/
theorem lockGhostKey_body : storage_lockGhostKey_src =
    "{ key := graphGhostKey(*ghost) item, err := txn.Get(key) if err == badger.ErrKeyNotFound { return txn.Set(key, tx[:]) } if err != nil { return err } var by crypto.Hash val, err := item.ValueCopy(by[:]) if err != nil { return err } if len(val) != len(by) || !by.HasValue() { return fmt.Errorf(\"ghost key %s malformed lock %x\", ghost.String(), val) } if fork && slices.Contains([]string{ \"c63b6373652def5999c1d951fcb8f064db67b7d18565847b921b21639e15dddd\", \"60deaf2471bb0b6481efe9080d8852b020ab2941e7faae21989d2404f34284ee\", \"a558b1efbe27eb6a6f902fd97d4b7e2e3099e6edde1fe6e8e41204e0685fe426\", }, tx.String()) { return nil } if by != tx { return fmt.Errorf(\"ghost key %s locked for transaction %s\", ghost.String(), by.String()) } return nil }" := by
  rfl

/-- the output types `validateOutputs` treats as kernel outputs (no keys / script / mask): the
    list the driver configures the model with (`Mixin.Driver.Locks.outCfg`) -/
theorem validateOutputs_kernel_types :
    common_Transaction_validateOutputs_switch.map (·.1) =
      [["OutputTypeWithdrawalSubmit", "OutputTypeWithdrawalClaim", "OutputTypeNodePledge",
        "OutputTypeNodeCancel", "OutputTypeNodeAccept"], ["default"]] := by decide +kernel

/-- which output types finalization materialises (first case), which it skips (second case);
    anything else panics: the table `Mixin.Driver.Locks.outKinds` configures the model with -/
theorem unspentOutputs_table :
    common_VersionedTransaction_UnspentOutputs_switch.map (·.1) =
      [["OutputTypeScript", "OutputTypeNodePledge", "OutputTypeNodeCancel", "OutputTypeNodeAccept",
        "OutputTypeNodeRemove", "OutputTypeWithdrawalClaim", "OutputTypeCustodianUpdateNodes"],
       ["OutputTypeWithdrawalSubmit", "OutputTypeCustodianSlashNodes"], ["default"]] := by decide +kernel

/-- the output types with a side effect in `writeUTXO` (every clause of its switch returns) -/
theorem writeUTXO_switch_labels :
    storage_writeUTXO_switch.map (·.1) =
      [["common.OutputTypeNodePledge"], ["common.OutputTypeNodeCancel"], ["common.OutputTypeNodeAccept"],
       ["common.OutputTypeNodeRemove"], ["common.OutputTypeCustodianUpdateNodes"],
       ["common.OutputTypeWithdrawalClaim"]] := by decide +kernel

/-- the body of `writeUTXO`: the key relock loop comes first — before the `Set` of the UTXO and
    before the switch whose clauses all return — so it runs for every materialised output type -/
theorem writeUTXO_body : storage_writeUTXO_src =
    "{ for _, k := range utxo.Keys { err := lockGhostKey(txn, k, utxo.Hash, true) if err != nil { return err } } key := graphUtxoKey(utxo.Hash, utxo.Index) val := utxo.Marshal() err := txn.Set(key, val) if err != nil { return err } var signer, payee crypto.Key if len(ver.Extra) >= len(signer) { copy(signer[:], ver.Extra) copy(payee[:], ver.Extra[len(signer):]) } switch utxo.Type { case common.OutputTypeNodePledge: return writeNodePledge(txn, signer, payee, utxo.Hash, timestamp) case common.OutputTypeNodeCancel: return writeNodeCancel(txn, signer, payee, utxo.Hash, timestamp) case common.OutputTypeNodeAccept: return writeNodeAccept(txn, signer, payee, utxo.Hash, timestamp, genesis) case common.OutputTypeNodeRemove: return writeNodeRemove(txn, signer, payee, utxo.Hash, timestamp) case common.OutputTypeCustodianUpdateNodes: return writeCustodianNodes(txn, timestamp, utxo, ver.Extra, genesis) case common.OutputTypeWithdrawalClaim: return writeWithdrawalClaim(txn, ver.References[0], ver.PayloadHash()) } return nil }" := by
  rfl

end Mixin.Facts.ExpectedC04
