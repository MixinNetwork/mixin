import Mixin.Facts.Generated
import Mixin.Model.Custodian
/-! Constants of common/custodian.go the C34 model and theorems rely on, tied to the
regenerated facts. A changed value breaks the build of `Mixin.Props.C34`. -/
namespace Mixin.Facts.ExpectedC34
open Mixin.Facts.Gen Mixin.Custodian

theorem facts_ok :
    common_custodianNodeExtraSize = nodeExtraSize ∧
    common_custodianNodeActionUpdate = actionUpdate.toNat ∧
    common_custodianNodesMinimumCount = nodesMinimumCount ∧
    common_custodianNodeNewPrice * 10 ^ common_Precision = newPrice ∧
    common_custodianNodeUpdatePrice * 10 ^ common_Precision = updatePrice ∧
    common_TxVersionHashSignature = txVersionHashSignature ∧
    common_OutputTypeCustodianUpdateNodes = outputTypeCustodianUpdateNodes ∧
    -- layout: action byte + 2 addresses + node id + 3 signatures
    1 + 64 + 64 + 32 + 64 + 64 + 64 = nodeExtraSize := by decide +kernel

end Mixin.Facts.ExpectedC34
