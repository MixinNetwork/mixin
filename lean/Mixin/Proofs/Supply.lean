import Mixin.Proofs.Ledger
import Mixin.Proofs.Amount
/-! The arithmetic behind C17: the quantities in which conservation is stated, sums over the UTXO family, and what
    `writeTotalInAsset` computes. Core Lean only. -/
namespace Mixin.Ledger

/-! ### the quantities of per-transaction conservation

  `C17.Conserving st tx` says: nothing of another asset is locked by `tx`, and
  `lockedBy st tx.id tx.asset + minted tx = matSum tx.outputs + burnt tx`. -/

/-- value of asset `a` in outputs locked by transaction `t` -/
def lockedBy (st : State) (t a : Id) : Nat := sumIf (fun u => u.asset = a && decide (u.lock = some t)) st.utxo

/-- value of the outputs written to the UTXO family -/
def matSum : List Output → Nat
  | [] => 0
  | o :: r => (if materialised o.typ = some true then o.amount else 0) + matSum r

def submitSum : List Output → Nat
  | [] => 0
  | o :: r => (if o.typ = .withdrawalSubmit then o.amount else 0) + submitSum r

/-- value created by a transaction: deposit, mint, genesis allocation -/
def minted (tx : Tx) : Nat :=
  match txType tx with
  | .withdrawalSubmit => 0
  | .deposit => (match tx.inputs with | [.deposit _ _ _ a] => a | _ => 0)
  | .mint => (match tx.inputs with | .mint _ a :: _ => a | _ => 0)
  | _ => (match tx.inputs with | .genesis :: _ => outSum tx.outputs | _ => 0)

/-- value leaving the ledger: withdrawal-submit outputs -/
def burnt (tx : Tx) : Nat :=
  match txType tx with
  | .withdrawalSubmit => submitSum tx.outputs
  | _ => 0

theorem minted_of_mint {tx : Tx} {b a : Nat} {r : List Input} (h : tx.inputs = .mint b a :: r) :
    minted tx = a := by
  have ht : txType tx = .mint := by unfold txType; rw [h]; rfl
  unfold minted
  rw [ht, h]

theorem minted_of_deposit {tx : Tx} {k c ak a : Nat} (h : tx.inputs = [.deposit k c ak a]) :
    minted tx = a := by
  have ht : txType tx = .deposit := by unfold txType; rw [h]; rfl
  unfold minted
  rw [ht, h]

theorem minted_of_utxo {tx : Tx} {h i : Nat} {r : List Input} (hi : tx.inputs = .utxo h i :: r) :
    minted tx = 0 := by
  unfold minted
  rw [hi]
  split <;> rfl

theorem minted_of_submit {tx : Tx} (h : txType tx = .withdrawalSubmit) : minted tx = 0 := by
  unfold minted
  rw [h]

theorem burnt_of_submit {tx : Tx} (h : txType tx = .withdrawalSubmit) : burnt tx = submitSum tx.outputs := by
  unfold burnt
  rw [h]

theorem burnt_of_ne_submit {tx : Tx} (h : txType tx ≠ .withdrawalSubmit) : burnt tx = 0 := by
  unfold burnt
  split
  · contradiction
  · rfl

theorem burnt_eq_zero {tx : Tx} (h : submitSum tx.outputs = 0) : burnt tx = 0 := by
  unfold burnt
  split
  · exact h
  · rfl

/-! ### sums over the UTXO family -/

abbrev Entries := List ((Id × Nat) × UTXO)

def contrib (f : UTXO → Bool) (u : UTXO) : Nat := if f u then u.amount else 0

theorem sumIf_cons (f : UTXO → Bool) (k : Id × Nat) (u : UTXO) (r : Entries) :
    sumIf f ((k, u) :: r) = contrib f u + sumIf f r := rfl

theorem sumIf_add {f g h : UTXO → Bool} {l : Entries}
    (hp : ∀ e ∈ l, contrib f e.2 = contrib g e.2 + contrib h e.2) : sumIf f l = sumIf g l + sumIf h l := by
  induction l with
  | nil => rfl
  | cons e r ih =>
    obtain ⟨k, u⟩ := e
    have h1 := hp (k, u) (by simp)
    have h2 := ih (fun e he => hp e (by simp [he]))
    simp only [sumIf_cons] at *
    omega

theorem sumIf_aset_fresh (f : UTXO → Bool) {l : Entries} {k : Id × Nat} (v : UTXO) (h : aget l k = none) :
    sumIf f (aset l k v) = sumIf f l + contrib f v := by
  induction l with
  | nil => simp [aset, sumIf, contrib]
  | cons e r ih =>
    obtain ⟨k', u⟩ := e
    by_cases hk : k' = k
    · simp [aget, hk] at h
    · simp only [aget, hk, if_false] at h
      simp only [aset, hk, if_false, sumIf_cons, ih h]
      omega

theorem sumIf_aset_same (f : UTXO → Bool) {l : Entries} {k : Id × Nat} {u : UTXO} (v : UTXO)
    (h : aget l k = some u) (hc : contrib f u = contrib f v) : sumIf f (aset l k v) = sumIf f l := by
  induction l with
  | nil => simp [aget] at h
  | cons e r ih =>
    obtain ⟨k', w⟩ := e
    by_cases hk : k' = k
    · simp only [aget, hk, if_true, Option.some.injEq] at h
      subst h
      simp [aset, hk, sumIf_cons, hc]
    · simp only [aget, hk, if_false] at h
      simp [aset, hk, sumIf_cons, ih h]

/-! ### unspent value as a function of the two families it reads -/

def live (fin : List (Id × Id)) (a : Id) (u : UTXO) : Bool :=
  u.asset = a && !(match u.lock with | none => false | some t => (aget fin t).isSome)

theorem unspent_eq (st : State) (a : Id) : unspent st a = sumIf (live st.fin a) st.utxo := rfl

/-- setting `FINALIZATION[t]` consumes exactly the outputs locked by `t` -/
theorem live_finalize {fin : List (Id × Id)} {t s : Id} (a : Id) (l : Entries) (h : aget fin t = none) :
    sumIf (live fin a) l =
      sumIf (live (aset fin t s) a) l + sumIf (fun u => u.asset = a && decide (u.lock = some t)) l := by
  apply sumIf_add
  intro e _
  obtain ⟨k, ⟨ua, uty, uam, uks, lk⟩⟩ := e
  simp only [contrib, live]
  cases lk with
  | none => simp
  | some t' =>
    by_cases e : t = t'
    · subst e; simp [h, aget_aset_eq]
    · have e' : ¬ t' = t := fun x => e x.symm
      simp [aget_aset_ne _ _ _ _ e, e']

/-! ### the outputs a finalization adds -/

def FreshKeys : Entries → Entries → Prop
  | _, [] => True
  | l, (k, v) :: r => aget l k = none ∧ FreshKeys (aset l k v) r

theorem sumIf_asetAll (f : UTXO → Bool) {l es : Entries} (h : FreshKeys l es) :
    sumIf f (asetAll l es) = sumIf f l + sumIf f es := by
  induction es generalizing l with
  | nil => simp [asetAll, sumIf]
  | cons e r ih =>
    obtain ⟨k, v⟩ := e
    obtain ⟨h1, h2⟩ := h
    simp only [asetAll, ih h2, sumIf_aset_fresh f v h1, sumIf_cons]
    omega

theorem aget_asetAll_other {l es : Entries} {k : Id × Nat} (h : ∀ e ∈ es, e.1 ≠ k) :
    aget (asetAll l es) k = aget l k := by
  induction es generalizing l with
  | nil => rfl
  | cons e r ih =>
    obtain ⟨k', v⟩ := e
    have h1 : k' ≠ k := h (k', v) (by simp)
    simp only [asetAll]
    rw [ih (fun e he => h e (by simp [he])), aget_aset_ne _ _ _ _ h1]

theorem newEntries_keys {tx : Tx} {outs : List Output} {idx : Nat} :
    ∀ e ∈ newEntries tx outs idx, e.1.1 = tx.id ∧ idx ≤ e.1.2 ∧ e.2.lock = none ∧ e.2.asset = tx.asset := by
  induction outs generalizing idx with
  | nil => simp [newEntries]
  | cons o r ih =>
    intro e he
    simp only [newEntries] at he
    split at he
    · rcases List.mem_cons.mp he with h | h
      · subst h; simp
      · obtain ⟨hid, hle, hrest⟩ := ih e h; exact ⟨hid, by omega, hrest⟩
    · obtain ⟨hid, hle, hrest⟩ := ih e he; exact ⟨hid, by omega, hrest⟩

theorem newEntries_fresh {tx : Tx} {outs : List Output} {idx : Nat} {l : Entries}
    (h : ∀ j, idx ≤ j → aget l (tx.id, j) = none) : FreshKeys l (newEntries tx outs idx) := by
  induction outs generalizing idx l with
  | nil => simp [newEntries, FreshKeys]
  | cons o r ih =>
    simp only [newEntries]
    split
    · refine ⟨h idx (Nat.le_refl _), ih ?_⟩
      intro j hj
      have : (tx.id, idx) ≠ (tx.id, j) := by intro e; cases e; omega
      rw [aget_aset_ne _ _ _ _ this]
      exact h j (by omega)
    · exact ih (fun j hj => h j (by omega))

theorem sumIf_newEntries_live (fin : List (Id × Id)) (a : Id) (tx : Tx) (outs : List Output) (idx : Nat) :
    sumIf (live fin a) (newEntries tx outs idx) = if tx.asset = a then matSum outs else 0 := by
  induction outs generalizing idx with
  | nil => simp [newEntries, sumIf, matSum]
  | cons o r ih =>
    simp only [newEntries, matSum]
    split
    · simp only [sumIf_cons, ih, contrib, live]
      by_cases e : tx.asset = a <;> simp [e]
    · simp [ih]

theorem sumIf_newEntries_locked (t a : Id) (tx : Tx) (outs : List Output) (idx : Nat) :
    sumIf (fun u => u.asset = a && decide (u.lock = some t)) (newEntries tx outs idx) = 0 := by
  induction outs generalizing idx with
  | nil => simp [newEntries, sumIf]
  | cons o r ih =>
    simp only [newEntries]
    split
    · simp [sumIf_cons, ih, contrib]
    · exact ih _

theorem subSubmits_spec {outs : List Output} {T T' : Nat} (h : subSubmits outs T = .ok T') :
    T' + submitSum outs = T := by
  induction outs generalizing T with
  | nil => simp [subSubmits] at h; simp [submitSum, h]
  | cons o r ih =>
    simp only [subSubmits] at h
    split at h
    · rename_i ho
      split at h
      · rename_i t hs
        have := ih h
        have := Amount.sub_some hs
        simp only [submitSum, ho, if_true]
        omega
      · cases h
    · rename_i ho
      have := ih h
      simp only [submitSum, ho, if_false]
      omega

theorem addOutputs_spec {outs : List Output} {T T' : Nat} (h : addOutputs outs T = .ok T') :
    T' = T + outSum outs := by
  induction outs generalizing T with
  | nil => simp [addOutputs] at h; simp [outSum, h]
  | cons o r ih =>
    simp only [addOutputs] at h
    split at h
    · rename_i t ha
      have := ih h
      have := Amount.add_some ha
      simp only [outSum, List.map, List.foldr] at *
      omega
    · cases h

theorem liftAmount_add {T a T' : Nat} (h : liftAmount (Amount.add T a) = .ok T') : T' = T + a := by
  cases ha : Amount.add T a with
  | none => rw [ha] at h; cases h
  | some t => rw [ha] at h; cases h; exact (Amount.add_some ha).2

theorem map_some_ok {x : Except Fail Nat} {r : Option Nat} (h : x.map some = .ok r) :
    ∃ t, x = .ok t ∧ r = some t := by
  cases x with
  | error e => cases h
  | ok t => cases h; exact ⟨t, rfl, rfl⟩

/-- the `switch` of `writeTotalInAsset` adds what is minted and subtracts what is burnt -/
theorem newTotal_spec {tx : Tx} {T : Nat} {r : Option Nat} (h : newTotal tx T = .ok r) :
    r.getD T + burnt tx = T + minted tx := by
  unfold newTotal at h
  split at h
  · rename_i ht
    obtain ⟨t, hs, rfl⟩ := map_some_ok h
    have := subSubmits_spec hs
    rw [burnt_of_submit ht, minted_of_submit ht, Option.getD_some]
    omega
  · rename_i ht
    split at h
    · rename_i hin
      obtain ⟨t, ha, rfl⟩ := map_some_ok h
      rw [burnt_of_ne_submit (by rw [ht]; nofun), minted_of_deposit hin, Option.getD_some, liftAmount_add ha]
      rfl
    · cases h
  · rename_i ht
    split at h
    · rename_i hin
      obtain ⟨t, ha, rfl⟩ := map_some_ok h
      rw [burnt_of_ne_submit (by rw [ht]; nofun), minted_of_mint hin, Option.getD_some, liftAmount_add ha]
      rfl
    · cases h
  · -- any other type: only a genesis input creates value, the sum of the outputs
    rename_i hs hd hm
    rw [burnt_of_ne_submit hs]
    unfold minted
    split <;> try contradiction
    split at h
    · rename_i hin
      obtain ⟨t, ha, rfl⟩ := map_some_ok h
      rw [hin, Option.getD_some, addOutputs_spec ha]
      rfl
    · cases h
    · rename_i hng _
      cases h
      split
      · exact absurd ‹_› (hng _)
      · rfl

end Mixin.Ledger
