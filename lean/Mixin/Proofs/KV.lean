import Mixin.Model.KV
/-! Lemmas about the association-list `Map` of `Mixin.Model.KV`. -/
namespace Mixin.KV.Map
variable {κ ν : Type} [DecidableEq κ]

theorem get_set (m : Map κ ν) (k k' : κ) (v : ν) :
    (m.set k v).get k' = if k = k' then some v else m.get k' := by
  induction m with
  | nil => simp [set, get]
  | cons p r ih =>
    obtain ⟨a, b⟩ := p
    by_cases h1 : a = k
    · subst h1
      by_cases h2 : a = k' <;> simp [set, get, h2]
    · by_cases h2 : a = k'
      · subst h2
        have : ¬ k = a := fun e => h1 e.symm
        simp [set, get, h1, this]
      · simp [set, get, h1, h2, ih]

theorem get_set_same (m : Map κ ν) (k : κ) (v : ν) : (m.set k v).get k = some v := by
  simp [get_set]

theorem get_set_ne (m : Map κ ν) {k k' : κ} (v : ν) (h : k ≠ k') : (m.set k v).get k' = m.get k' := by
  simp [get_set, h]

theorem get_set_of_get {m : Map κ ν} {k k' : κ} {v t : ν} (h : m.get k = some t) (hk : k' = k → v = t) :
    (m.set k' v).get k = some t := by
  rw [get_set]
  split
  · next e => rw [hk e]
  · exact h

theorem get_del (m : Map κ ν) (k k' : κ) :
    (m.del k).get k' = if k = k' then none else m.get k' := by
  induction m with
  | nil => simp [del, get]
  | cons p r ih =>
    obtain ⟨a, b⟩ := p
    by_cases h1 : a = k
    · subst h1
      by_cases h2 : a = k'
      · subst h2; simp [del, ih]
      · simp [del, get, h2, ih]
    · by_cases h2 : a = k'
      · subst h2
        have : ¬ k = a := fun e => h1 e.symm
        simp [del, get, h1, this]
      · simp [del, get, h1, h2, ih]

theorem get_del_same (m : Map κ ν) (k : κ) : (m.del k).get k = none := by simp [get_del]

theorem get_del_ne (m : Map κ ν) {k k' : κ} (h : k ≠ k') : (m.del k).get k' = m.get k' := by
  simp [get_del, h]

theorem set_same (m : Map κ ν) (k : κ) (v : ν) (h : m.get k = some v) : m.set k v = m := by
  induction m with
  | nil => simp [get] at h
  | cons p r ih =>
    obtain ⟨a, b⟩ := p
    by_cases h1 : a = k
    · subst h1
      simp [get] at h
      simp [set, h]
    · simp [get, h1] at h
      simp [set, h1, ih h]

theorem get_del_some {m : Map κ ν} {k k' : κ} {v : ν} (h : (m.del k).get k' = some v) : m.get k' = some v := by
  rw [get_del] at h
  split at h
  · cases h
  · exact h

theorem mem_of_get {m : Map κ ν} {k : κ} {v : ν} (h : m.get k = some v) : (k, v) ∈ m := by
  induction m with
  | nil => simp [get] at h
  | cons p r ih =>
    obtain ⟨a, b⟩ := p
    by_cases e : a = k
    · subst e; simp [get] at h; subst h; exact List.mem_cons_self
    · simp [get, e] at h; exact List.mem_cons_of_mem _ (ih h)

end Mixin.KV.Map
