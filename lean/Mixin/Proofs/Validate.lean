import Mixin.Model.Validate
import Mixin.Proofs.Amount
import Mixin.Proofs.Basics
/-!
  Lemmas about the validation model (used by Props/C01, C02, C05 and the bridges).

  Accepting runs are analysed backwards, from `… = .ok _`, with `bind_ok` / `guardRej_ok` as
  rewrite rules. "Never panics" and "always rejects" are proved forwards, walking down the
  program with `bind_np` / `guard_np` / `ite_np` and `bind_rej` / `guard_rej`; nested `if`s are
  taken apart by case principles (`ite_cases`, `dispatch_cases`, `outputTxType_cases`), not by `split`.
-/
namespace Mixin.Validate

/-! ### the monad `M` -/

theorem bind_ok {α β} {x : M α} {f : α → M β} {b : β} :
    (x >>= f) = .ok b ↔ ∃ a, x = .ok a ∧ f a = .ok b := by
  cases x <;> simp [bind, Except.bind]

theorem bind_panic {α β} {x : M α} {f : α → M β} {s : Site} :
    (x >>= f) = .error (.panic s) ↔ x = .error (.panic s) ∨ ∃ a, x = .ok a ∧ f a = .error (.panic s) := by
  cases x <;> simp [bind, Except.bind]

@[simp] theorem guardRej_ok {c : Bool} {u : Unit} : guardRej c = .ok u ↔ c = false := by
  cases c <;> simp [guardRej, rej, pure, Except.pure]

@[simp] theorem guardRej_not_panic {c : Bool} {s : Site} : guardRej c ≠ .error (.panic s) := by
  cases c <;> simp [guardRej, rej, pure, Except.pure]

@[simp] theorem guardPan_ok {c : Bool} {s : Site} {u : Unit} : guardPan c s = .ok u ↔ c = false := by
  cases c <;> simp [guardPan, pan, pure, Except.pure]

@[simp] theorem rej_ne_ok {α} {a : α} : (rej : M α) ≠ .ok a := by simp [rej]
@[simp] theorem pan_ne_ok {α} {a : α} {s} : (pan s : M α) ≠ .ok a := by simp [pan]
@[simp] theorem rej_ne_panic {α} {s} : (rej : M α) ≠ .error (.panic s) := by simp [rej]
@[simp] theorem pure_ok {α} {a b : α} : (pure a : M α) = .ok b ↔ a = b := by simp [pure, Except.pure]
@[simp] theorem pure_ne_panic {α} {a : α} {s} : (pure a : M α) ≠ .error (.panic s) := by simp [pure, Except.pure]

theorem pan_eq_panic {α} {s s' : Site} : (pan s : M α) = .error (.panic s') ↔ s = s' := by
  simp [pan]

theorem guardRej_bind_ok {α} {c : Bool} {f : Unit → M α} {b : α} :
    (guardRej c >>= f) = .ok b ↔ c = false ∧ f () = .ok b :=
  bind_ok.trans ⟨fun ⟨_, h1, h2⟩ => ⟨guardRej_ok.1 h1, h2⟩, fun ⟨h1, h2⟩ => ⟨(), guardRej_ok.2 h1, h2⟩⟩

theorem bind_np {α β} {x : M α} {f : α → M β} {s : Site} (hx : x ≠ .error (.panic s))
    (hf : ∀ a, x = .ok a → f a ≠ .error (.panic s)) : (x >>= f) ≠ .error (.panic s) := fun h =>
  (bind_panic.1 h).elim hx fun ⟨a, ha, h⟩ => hf a ha h

theorem guard_np_of {β} {c : Bool} {f : Unit → M β} {s : Site} (hf : c = false → f () ≠ .error (.panic s)) :
    (guardRej c >>= f) ≠ .error (.panic s) :=
  bind_np guardRej_not_panic fun _ h => hf (guardRej_ok.1 h)

theorem guard_np {β} {c : Bool} {f : Unit → M β} {s : Site} (hf : f () ≠ .error (.panic s)) :
    (guardRej c >>= f) ≠ .error (.panic s) :=
  guard_np_of fun _ => hf

theorem ite_cases {α} {P : α → Prop} {c : Prop} [Decidable c] {a b : α} (ha : c → P a) (hb : ¬c → P b) :
    P (if c then a else b) := by
  split
  · exact ha ‹_›
  · exact hb ‹_›

theorem ite_np_of {α} {c : Prop} [Decidable c] {x y : M α} {s : Site} (hx : c → x ≠ .error (.panic s))
    (hy : ¬c → y ≠ .error (.panic s)) : (if c then x else y) ≠ .error (.panic s) :=
  ite_cases (P := fun r => r ≠ Except.error (Err.panic s)) hx hy

theorem ite_np {α} {c : Prop} [Decidable c] {x y : M α} {s : Site} (hx : x ≠ .error (.panic s))
    (hy : y ≠ .error (.panic s)) : (if c then x else y) ≠ .error (.panic s) :=
  ite_np_of (fun _ => hx) fun _ => hy

theorem bind_rej {α β} {x : M α} {f : α → M β} (hx : ∀ s, x ≠ .error (.panic s))
    (hf : ∀ a, x = .ok a → f a = rej) : (x >>= f) = rej := by
  match x, hx, hf with
  | .ok a, _, hf => exact hf a rfl
  | .error .reject, _, _ => rfl
  | .error (.panic s), hx, _ => exact absurd rfl (hx s)

theorem guard_rej {β} {c : Bool} {f : Unit → M β} (hf : f () = rej) : (guardRej c >>= f) = rej := by
  cases c
  · exact hf
  · rfl

theorem ite_pure_ok {α} {c : Prop} [Decidable c] {x y : α} :
    (if c then pure x else rej : M α) = .ok y ↔ c ∧ x = y := by
  split <;> simp [*]

/-! ### case principles for the two type tables -/

theorem ite_beq_cases {α} {P : α → Prop} {x y : Nat} {a b : α} (ha : x = y → P a) (hb : P b) :
    P (if x == y then a else b) :=
  ite_cases (fun h => ha (beq_iff_eq.1 h)) fun _ => hb

theorem dispatch_cases {L O tx tt f} {P : M Unit → Prop}
    (script : tt = ttScript → P (validateScript f))
    (mint : tt = ttMint → P (validateMint L tx))
    (deposit : tt = ttDeposit → P (validateDeposit L O tx))
    (submit : tt = ttWithdrawalSubmit → P (validateWithdrawalSubmit tx f))
    (claim : tt = ttWithdrawalClaim → P (validateWithdrawalClaim L O tx f))
    (pledge : tt = ttNodePledge → P (validateNodePledge L O tx f))
    (cancel : tt = ttNodeCancel → P (validateNodeCancel L O tx))
    (accept : tt = ttNodeAccept → P (validateNodeAccept L O tx))
    (remove : tt = ttNodeRemove → P (validateNodeRemove L tx))
    (custodian : tt = ttCustodianUpdate → P (validateCustodianUpdateNodes L O tx))
    (other : P rej) : P (dispatch L O tx tt f) :=
  ite_beq_cases script <| ite_beq_cases mint <| ite_beq_cases deposit <| ite_beq_cases submit <|
  ite_beq_cases claim <| ite_beq_cases pledge <| ite_beq_cases cancel <| ite_beq_cases accept <|
  ite_beq_cases remove <| ite_beq_cases custodian other

theorem dispatch_mint {L O tx f} : dispatch L O tx ttMint f = validateMint L tx := rfl

theorem dispatch_deposit {L O tx f} : dispatch L O tx ttDeposit f = validateDeposit L O tx := rfl

theorem dispatch_cancel {L O tx f} : dispatch L O tx ttNodeCancel f = validateNodeCancel L O tx := rfl

theorem outputTxType_cases {P : Nat → Prop} {t : Nat} (submit : P ttWithdrawalSubmit)
    (claim : P ttWithdrawalClaim) (pledge : P ttNodePledge) (cancel : P ttNodeCancel) (accept : P ttNodeAccept)
    (remove : P ttNodeRemove) (update : P ttCustodianUpdate) (slash : P ttCustodianSlash) :
    P (outputTxType t) :=
  ite_beq_cases (fun _ => submit) <| ite_beq_cases (fun _ => claim) <| ite_beq_cases (fun _ => pledge) <|
  ite_beq_cases (fun _ => cancel) <| ite_beq_cases (fun _ => accept) <| ite_beq_cases (fun _ => remove) <|
  ite_beq_cases (fun _ => update) slash

/-! ### the transaction type read off inputs and outputs -/

theorem outputTxType_vals (t : Nat) : outputTxType t ≠ ttMint ∧ outputTxType t ≠ ttDeposit ∧
    outputTxType t ≠ ttScript ∧ outputTxType t ≠ ttUnknown := by
  refine outputTxType_cases (P := fun v => v ≠ ttMint ∧ v ≠ ttDeposit ∧ v ≠ ttScript ∧ v ≠ ttUnknown)
    ?_ ?_ ?_ ?_ ?_ ?_ ?_ ?_ <;> decide

theorem typeOfOutputs_vals : ∀ (outs : List Output) (b : Bool),
    typeOfOutputs outs b ≠ ttMint ∧ typeOfOutputs outs b ≠ ttDeposit
  | [], b => by cases b <;> decide
  | o :: os, b => by
    unfold typeOfOutputs
    split
    · obtain ⟨hmint, hdeposit, _⟩ := outputTxType_vals o.type
      exact ⟨hmint, hdeposit⟩
    · exact typeOfOutputs_vals os _

theorem typeOfInputs_vals : ∀ (ins : List Input) (t : Nat), typeOfInputs ins = some t →
    t = ttMint ∨ t = ttDeposit ∨ t = ttUnknown := by
  intro ins
  induction ins with
  | nil => intro t h; simp [typeOfInputs] at h
  | cons i is ih =>
    intro t h
    unfold typeOfInputs at h
    split at h
    · simp at h; exact Or.inl h.symm
    · split at h
      · simp at h; exact Or.inr (Or.inl h.symm)
      · split at h
        · simp at h; exact Or.inr (Or.inr h.symm)
        · exact ih t h

theorem typeOfInputs_none {tx : Tx} (h1 : txType tx ≠ ttMint) (h2 : txType tx ≠ ttDeposit)
    (h3 : txType tx ≠ ttUnknown) : typeOfInputs tx.inputs = none := by
  cases h : typeOfInputs tx.inputs with
  | none => rfl
  | some t =>
    have := typeOfInputs_vals _ _ h
    simp [txType, h] at h1 h2 h3
    omega

theorem single_input_type {tx : Tx} {x} (hx : tx.inputs = [x]) :
    (txType tx = ttMint → x.mint.isSome = true) ∧ (txType tx = ttDeposit → x.deposit.isSome = true) := by
  unfold txType
  rw [hx, typeOfInputs, typeOfInputs]
  cases x.mint with
  | some m => exact ⟨fun _ => rfl, fun (h : ttMint = ttDeposit) => absurd h (by decide)⟩
  | none =>
  cases x.deposit with
  | some d => exact ⟨fun (h : ttDeposit = ttMint) => absurd h (by decide), fun _ => rfl⟩
  | none =>
  cases x.genesis with
  | true => exact ⟨fun (h : ttUnknown = ttMint) => absurd h (by decide),
      fun (h : ttUnknown = ttDeposit) => absurd h (by decide)⟩
  | false => exact ⟨fun h => absurd h (typeOfOutputs_vals _ _).1, fun h => absurd h (typeOfOutputs_vals _ _).2⟩

/-- an input that is a plain `(hash, index)` reference, without genesis, mint or deposit section
    (`IsOrdinaryUtxo` below is about something else: the type of the spent output) -/
def Ordinary (p : Input) : Prop := p.genesis = false ∧ p.mint = none ∧ p.deposit = none

theorem typeOfInputs_append {pre : List Input} (h : ∀ p ∈ pre, Ordinary p) (rest : List Input) :
    typeOfInputs (pre ++ rest) = typeOfInputs rest := by
  induction pre with
  | nil => rfl
  | cons p ps ih =>
    obtain ⟨hp, hps⟩ := List.forall_mem_cons.1 h
    simp only [List.cons_append, typeOfInputs, hp.2.1, hp.2.2, hp.1]
    simpa using ih hps

theorem isSpecialOutput_iff {t : Nat} : isSpecialOutput t = true ↔
    t = otWithdrawalSubmit ∨ t = otWithdrawalClaim ∨ t = otNodePledge ∨ t = otNodeCancel ∨
    t = otNodeAccept ∨ t = otNodeRemove ∨ t = otCustodianUpdate ∨ t = otCustodianSlash := by
  simp only [isSpecialOutput, Bool.or_eq_true, beq_iff_eq, or_assoc]

theorem typeOfOutputs_script : ∀ (outs : List Output) (b : Bool),
    typeOfOutputs outs b = ttScript → b = true ∧ ∀ o ∈ outs, o.type = otScript := by
  intro outs
  induction outs with
  | nil =>
    intro b h
    cases b
    · exact absurd h (by decide)
    · exact ⟨rfl, fun _ ho => nomatch ho⟩
  | cons x r ih =>
    intro b h
    obtain ⟨_, h⟩ := of_ite_eq h (outputTxType_vals x.type).2.2.1
    obtain ⟨hb, hr⟩ := ih _ h
    rw [Bool.and_eq_true, beq_iff_eq] at hb
    exact ⟨hb.1, List.forall_mem_cons.2 ⟨hb.2, hr⟩⟩

theorem txType_eq_typeOfOutputs {tx : Tx} (h1 : txType tx ≠ ttMint) (h2 : txType tx ≠ ttDeposit)
    (h3 : txType tx ≠ ttUnknown) : txType tx = typeOfOutputs tx.outputs true := by
  unfold txType
  rw [typeOfInputs_none h1 h2 h3]

theorem typeOfOutputs_single {o : Output} {T : Nat} (h : typeOfOutputs [o] true = T) (hs : T ≠ ttScript)
    (hu : T ≠ ttUnknown) : isSpecialOutput o.type = true ∧ outputTxType o.type = T := by
  unfold typeOfOutputs at h
  by_cases hsp : isSpecialOutput o.type = true
  · rw [if_pos hsp] at h; exact ⟨hsp, h⟩
  · rw [if_neg hsp] at h
    unfold typeOfOutputs at h
    split at h
    · exact absurd h.symm hs
    · exact absurd h.symm hu

/-! ### what an accepting run went through -/

theorem structural_ok {tx} {u : Unit} (h : structural tx = .ok u) :
    tx.version = Facts.Gen.common_TxVersionHashSignature ∧ 1 ≤ tx.inputs.length ∧ 1 ≤ tx.outputs.length ∧
    txType tx ≠ ttUnknown := by
  unfold structural at h
  simp only [guardRej_bind_ok] at h
  obtain ⟨h1, h2, h3, _⟩ := h
  simp only [Bool.or_eq_false_iff, decide_eq_false_iff_not, Nat.not_lt] at h3
  simp at h1 h2
  exact ⟨h1, h3.1, h3.2, h2⟩

theorem validateM_ok {L O tx fork i o} (h : validateM L O tx fork = .ok (i, o)) :
    structural tx = .ok () ∧ sigPresence tx (txType tx) = .ok () ∧
    ∃ f, validateInputs L O tx (txType tx) fork = .ok (f, i) ∧ i ≠ 0 ∧
      validateOutputs L O tx i = .ok o ∧ dispatch L O tx (txType tx) f = .ok () := by
  unfold validateM at h
  simp only [bind_ok, guardRej_ok, pure_ok] at h
  obtain ⟨_, hs, _, hp, _, _, ⟨f, i'⟩, hi, _, hz, o', ho, _, hd, heq⟩ := h
  simp at heq hz
  obtain ⟨rfl, rfl⟩ := heq
  exact ⟨hs, hp, f, hi, hz, ho, hd⟩

def accStep (a : InAcc) (inp : Input) (u : Utxo) (ks : KeySigs) : InAcc :=
  { filter := a.filter ++ [((inp.hash, inp.index), u)], amount := a.amount + u.amount,
    allKeys := a.allKeys ++ u.keys, keySigs := a.keySigs ++ ks }

/-- what a completed pass of the input loop establishes, input by input -/
def LoopSpec (L : Ledger) (tx : Tx) (tt : Nat) : Nat → List Input → InAcc → InAcc → Prop
  | _, [], a, a' => a' = a
  | k, inp :: rest, a, a' =>
    inp.genesis = false ∧ inp.mint = none ∧ inp.deposit = none ∧
    ∃ u ks, L.utxo inp.hash inp.index = some u ∧ u.asset = tx.asset ∧ 0 < u.amount ∧
      validateUTXO k u tx tt a.allKeys.length = .ok ks ∧
      LoopSpec L tx tt (k + 1) rest (accStep a inp u ks) a'

def inputKey (i : Input) : Id × Nat := (i.hash, i.index)

def inputAmount (L : Ledger) (i : Input) : Nat :=
  match i.mint with
  | some m => m.amount
  | none => match i.deposit with
    | some d => d.amount
    | none => match L.utxo i.hash i.index with
      | some u => u.amount
      | none => 0

/-- One step of the input loop, whatever its result `r` (an inversion for `.ok _` and a
    description of where a panic can come from at once). -/
theorem inputsLoop_cons {L tx tt fork k inp rest a r}
    (h : inputsLoop L tx tt fork k (inp :: rest) a = r) :
    r = rej ∨
    ((inp.mint.isSome ∨ inp.deposit.isSome) ∧ r = pure (.early a.filter (inputAmount L inp))) ∨
    (Ordinary inp ∧ inputKey inp ∉ a.filter.map (·.1) ∧
      ∃ u, L.utxo inp.hash inp.index = some u ∧ u.asset = tx.asset ∧
        r = validateUTXO k u tx tt a.allKeys.length >>= fun ks =>
          if u.amount = 0 then pan .validateInputs
          else inputsLoop L tx tt fork (k + 1) rest (accStep a inp u ks)) := by
  unfold inputsLoop at h
  cases hg : inp.genesis
  case true => rw [hg, if_pos rfl] at h; exact Or.inl h.symm
  rw [hg, if_neg Bool.false_ne_true] at h
  cases hm : inp.mint with
  | some m => rw [hm] at h; exact Or.inr (Or.inl ⟨Or.inl rfl, by rw [inputAmount, hm]; exact h.symm⟩)
  | none =>
  cases hd : inp.deposit with
  | some d => rw [hm, hd] at h; exact Or.inr (Or.inl ⟨Or.inr rfl, by rw [inputAmount, hm, hd]; exact h.symm⟩)
  | none =>
  rw [hm, hd] at h
  by_cases hf : (a.filter.find? (fun e => e.1 == (inp.hash, inp.index))).isSome
  · rw [if_pos hf] at h; exact Or.inl h.symm
  rw [if_neg hf] at h
  cases hu : L.utxo inp.hash inp.index with
  | none => rw [hu] at h; exact Or.inl h.symm
  | some u =>
  rw [hu] at h
  dsimp only at h
  by_cases hasset : u.asset != tx.asset
  · rw [if_pos hasset] at h; exact Or.inl h.symm
  rw [if_neg hasset] at h
  by_cases hlock : (u.lock != 0 && u.lock != tx.hash && !fork) = true
  · rw [if_pos hlock] at h; exact Or.inl h.symm
  rw [if_neg hlock] at h
  refine Or.inr (Or.inr ⟨⟨hg, hm, hd⟩, ?_, u, rfl, by simpa using hasset, ?_⟩)
  · intro hmem
    obtain ⟨e, he, hek⟩ := List.mem_map.1 hmem
    exact hf (List.find?_isSome.2 ⟨e, he, by simp [hek, inputKey]⟩)
  · rw [← h]
    congr 1; funext ks
    cases hs : Amount.add a.amount u.amount with
    | none => rw [if_pos (Amount.add_none hs)]
    | some s =>
      obtain ⟨hpos, rfl⟩ := Amount.add_some hs
      rw [if_neg (Nat.ne_of_gt hpos)]; rfl

theorem loop_full {L tx tt fork} : ∀ (ins : List Input) (k : Nat) (a a' : InAcc),
    inputsLoop L tx tt fork k ins a = .ok (.full a') → LoopSpec L tx tt k ins a a'
  | [], _, _, _, h => by cases h; rfl
  | inp :: rest, k, a, a', h => by
    rcases inputsLoop_cons h with h | ⟨_, h⟩ | ⟨hord, _, u, hu, hasset, h⟩
    · cases h
    · cases h
    · obtain ⟨ks, hks, h⟩ := bind_ok.1 h.symm
      obtain ⟨hpos, h⟩ := of_ite_eq h pan_ne_ok
      exact ⟨hord.1, hord.2.1, hord.2.2, u, ks, hu, hasset, Nat.pos_of_ne_zero hpos, hks, loop_full rest _ _ _ h⟩

theorem loop_early {L tx tt fork} : ∀ (ins : List Input) (k : Nat) (a : InAcc) (f : Filter) (amt : Nat),
    inputsLoop L tx tt fork k ins a = .ok (.early f amt) →
    ∃ pre inp post, ins = pre ++ inp :: post ∧ (∀ p ∈ pre, Ordinary p) ∧
      (inp.mint.isSome ∨ inp.deposit.isSome) ∧ amt = inputAmount L inp
  | [], _, _, _, _, h => by cases h
  | inp :: rest, k, a, f, amt, h => by
    rcases inputsLoop_cons h with h | ⟨hx, h⟩ | ⟨hord, _, u, _, _, h⟩
    · cases h
    · cases h
      exact ⟨[], inp, rest, rfl, by simp, hx, rfl⟩
    · obtain ⟨ks, _, h⟩ := bind_ok.1 h.symm
      obtain ⟨pre, x, post, he, hp, hx⟩ := loop_early rest _ _ _ _ (of_ite_eq h pan_ne_ok).2
      exact ⟨inp :: pre, x, post, by rw [he]; rfl, List.forall_mem_cons.2 ⟨hord, hp⟩, hx⟩

theorem loop_filter_nodup {L tx tt fork} : ∀ (ins : List Input) (k : Nat) (a a' : InAcc),
    inputsLoop L tx tt fork k ins a = .ok (.full a') →
    a'.filter.map (·.1) = a.filter.map (·.1) ++ ins.map inputKey ∧
    ((a.filter.map (·.1)).Nodup → (a'.filter.map (·.1)).Nodup)
  | [], _, _, _, h => by cases h; simp
  | inp :: rest, k, a, a', h => by
    rcases inputsLoop_cons h with h | ⟨_, h⟩ | ⟨_, hnot, u, _, _, h⟩
    · cases h
    · cases h
    · obtain ⟨ks, _, h⟩ := bind_ok.1 h.symm
      obtain ⟨h1, h2⟩ := loop_filter_nodup rest _ _ _ (of_ite_eq h pan_ne_ok).2
      refine ⟨by simp [h1, accStep, inputKey], fun hnd => h2 ?_⟩
      simp only [accStep, List.map_append, List.map_cons, List.map_nil]
      exact List.nodup_append.2 ⟨hnd, by simp, fun x hx y hy => by
        rw [List.mem_singleton.1 hy]; exact fun hxy => hnot (hxy ▸ hx : (inp.hash, inp.index) ∈ _)⟩

theorem outputsLoop_ok {O} : ∀ (outs : List Output) (sum : Nat) (g : List Id) (sum' : Nat) (g' : List Id),
    outputsLoop O outs sum g = .ok (sum', g') →
    sum' = sum + (outs.map (·.amount)).sum ∧ ∀ o ∈ outs, 0 < o.amount
  | [], _, _, _, _, h => by cases h; simp
  | o :: os, sum, g, sum', g', h => by
    unfold outputsLoop at h
    simp only [bind_ok, guardRej_ok] at h
    obtain ⟨_, _, _, _, _, _, _, _, h⟩ := h
    split at h
    · cases h
    · rename_i s hs
      obtain ⟨hp, rfl⟩ := Amount.add_some hs
      obtain ⟨h1, h2⟩ := outputsLoop_ok os _ _ _ _ h
      exact ⟨by simp [h1]; omega, List.forall_mem_cons.2 ⟨hp, h2⟩⟩

theorem validateOutputs_ok {L O tx i o} (h : validateOutputs L O tx i = .ok o) :
    o = (tx.outputs.map (·.amount)).sum ∧ i = o ∧ ∀ out ∈ tx.outputs, 0 < out.amount := by
  unfold validateOutputs at h
  simp only [bind_ok, guardRej_ok, pure_ok] at h
  obtain ⟨⟨sum, ghosts⟩, hloop, _, heq, _, _, rfl⟩ := h
  obtain ⟨hs, hop⟩ := outputsLoop_ok _ _ _ _ _ hloop
  exact ⟨by simpa using hs, by simpa using heq, hop⟩

theorem loopSpec_sum {L tx tt} : ∀ (ins : List Input) (k : Nat) (a a' : InAcc),
    LoopSpec L tx tt k ins a a' →
    a'.amount = a.amount + (ins.map (inputAmount L)).sum ∧
    ∀ inp ∈ ins, Ordinary inp ∧ ∃ u, L.utxo inp.hash inp.index = some u ∧ u.asset = tx.asset := by
  intro ins
  induction ins with
  | nil => intro k a a' h; cases h; simp
  | cons inp rest ih =>
    intro k a a' ⟨hg, hm, hd, u, ks, hu, hasset, _, _, hrest⟩
    obtain ⟨h1, h2⟩ := ih _ _ _ hrest
    refine ⟨?_, List.forall_mem_cons.2 ⟨⟨⟨hg, hm, hd⟩, u, hu, hasset⟩, h2⟩⟩
    have : inputAmount L inp = u.amount := by rw [inputAmount, hm, hd, hu]
    rw [h1, List.map_cons, List.sum_cons, this, accStep, Nat.add_assoc]

theorem loopSpec_type {L tx tt} : ∀ (ins : List Input) (k : Nat) (a a' : InAcc),
    LoopSpec L tx tt k ins a a' → typeOfInputs ins = none := by
  intro ins k a a' h
  rw [← List.append_nil ins, typeOfInputs_append fun p hp => ((loopSpec_sum ins k a a' h).2 p hp).1]
  rfl

theorem validateInputs_full_ok {L O tx tt fork f i a}
    (h : validateInputs L O tx tt fork = .ok (f, i))
    (hl : inputsLoop L tx tt fork 0 tx.inputs {} = .ok (.full a)) :
    f = a.filter ∧ i = a.amount ∧
    ((a.keySigs = [] ∧ (tt = ttNodeAccept ∨ tt = ttNodeRemove)) ∨
     (tx.inputs.length ≤ a.keySigs.length ∧
      match tx.agg with
      | some (signers, sig) => O.aggVerify a.allKeys signers sig = true
      | none => ∀ e ∈ a.keySigs, ∃ s, e.2 = some s ∧ O.verify e.1 s = true)) := by
  unfold validateInputs at h
  rw [hl] at h
  replace h : (if _ then _ else if _ then _ else _) = Except.ok (f, i) := h
  split at h
  · rename_i hc
    cases pure_ok.1 h
    exact ⟨rfl, rfl, Or.inl (by simpa using hc)⟩
  · obtain ⟨hlen, h⟩ := of_ite_eq h rej_ne_ok
    suffices this : (a.filter, a.amount) = (f, i) ∧ _ by
      cases this.1; exact ⟨rfl, rfl, Or.inr ⟨Nat.le_of_not_lt hlen, this.2⟩⟩
    cases hagg : tx.agg with
    | some v => rw [hagg] at h; exact (ite_pure_ok.1 h).symm
    | none =>
      rw [hagg] at h
      refine ⟨(ite_pure_ok.1 h).2, fun e he => ?_⟩
      have := List.all_eq_true.1 (ite_pure_ok.1 h).1 e he
      split at this
      · exact ⟨_, ‹_›, this⟩
      · cases this

theorem validateInputs_ok {L O tx tt fork f i} (h : validateInputs L O tx tt fork = .ok (f, i)) :
    (∃ fl, inputsLoop L tx tt fork 0 tx.inputs {} = .ok (.early fl i)) ∨
    (∃ a, inputsLoop L tx tt fork 0 tx.inputs {} = .ok (.full a) ∧ f = a.filter ∧ i = a.amount) := by
  obtain ⟨r, hr, h'⟩ := bind_ok.1 (show (inputsLoop L tx tt fork 0 tx.inputs {} >>= _) = _ from h)
  cases r with
  | early fl amt => exact Or.inl ⟨fl, by rw [hr, (Prod.mk.inj (pure_ok.1 h')).2]⟩
  | full a => exact Or.inr ⟨a, hr, (validateInputs_full_ok h hr).1, (validateInputs_full_ok h hr).2.1⟩

theorem early_type {L tx fork fl i}
    (hl : inputsLoop L tx (txType tx) fork 0 tx.inputs {} = .ok (.early fl i)) :
    txType tx = ttMint ∨ txType tx = ttDeposit := by
  obtain ⟨pre, x, post, he, hpre, hx, _⟩ := loop_early _ _ _ _ _ hl
  unfold txType
  rw [he, typeOfInputs_append hpre, typeOfInputs]
  by_cases hm : x.mint.isSome = true
  · rw [if_pos hm]; exact Or.inl rfl
  · rw [if_neg hm, if_pos (hx.resolve_left hm)]; exact Or.inr rfl

theorem loop_single {L tx tt fork inp a} (hx : tx.inputs = [inp])
    (hl : inputsLoop L tx tt fork 0 tx.inputs {} = .ok (.full a)) :
    ∃ u ks, L.utxo inp.hash inp.index = some u ∧ validateUTXO 0 u tx tt 0 = .ok ks ∧
      a.filter = [((inp.hash, inp.index), u)] ∧ a.keySigs = ks := by
  have h := loop_full _ _ _ _ hl
  rw [hx] at h
  obtain ⟨_, _, _, u, ks, hu, _, _, hv, rfl⟩ := h
  exact ⟨u, ks, hu, hv, rfl, List.nil_append _⟩

theorem inputs_full {L O tx fork f i} (h : validateInputs L O tx (txType tx) fork = .ok (f, i))
    (h1 : txType tx ≠ ttMint) (h2 : txType tx ≠ ttDeposit) :
    ∃ a, inputsLoop L tx (txType tx) fork 0 tx.inputs {} = .ok (.full a) ∧ f = a.filter ∧ i = a.amount := by
  rcases validateInputs_ok h with ⟨fl, hl⟩ | h
  · rcases early_type hl with h | h <;> contradiction
  · exact h

def IsOrdinaryUtxo (u : Utxo) : Prop := u.type = otScript ∨ u.type = otNodeRemove

theorem isOrdinaryUtxo_iff {u : Utxo} :
    IsOrdinaryUtxo u ↔ (u.type == otScript || u.type == otNodeRemove) = true := by
  simp [IsOrdinaryUtxo]

theorem validateUTXO_other {k u tx tt off} {P : M KeySigs → Prop} (hu : ¬IsOrdinaryUtxo u) (h0 : P (pure []))
    (h1 : P rej) : P (validateUTXO k u tx tt off) := by
  unfold validateUTXO
  rw [if_neg (mt isOrdinaryUtxo_iff.2 hu)]
  exact ite_cases (fun _ => ite_cases (fun _ => h0) fun _ => h1) fun _ =>
    ite_cases (fun _ => ite_cases (fun _ => h0) fun _ => h1) fun _ => h1

theorem validateUTXO_collects {k u tx tt off ks} (h : validateUTXO k u tx tt off = .ok ks) (hne : ks ≠ []) :
    IsOrdinaryUtxo u :=
  Classical.byContradiction fun hu => hne <|
    validateUTXO_other (P := fun r => r = .ok ks → ks = []) hu (fun h => (pure_ok.1 h).symm)
      (fun h => absurd h rej_ne_ok) h

theorem length_eq_one_of_bne {α} {l : List α} (h : (l.length != 1) = false) : ∃ x, l = [x] :=
  List.length_eq_one_iff.1 (by simpa using h)

theorem validateMint_one {L tx} (h : validateMint L tx = .ok ()) : ∃ x, tx.inputs = [x] := by
  unfold validateMint at h
  split at h
  · exact ⟨_, ‹_›⟩
  · cases h

theorem validateDeposit_one {L O tx} (h : validateDeposit L O tx = .ok ()) : ∃ x, tx.inputs = [x] := by
  unfold validateDeposit at h
  exact length_eq_one_of_bne (guardRej_bind_ok.1 h).1

/-! ### what acceptance by a type validator says about the output types -/

theorem head_tail_types {outs : List Output} {T : Nat} {s : Output} (hh : outs.head? = some s)
    (ht : (s.type != T) = false) (hr : ((outs.drop 1).any fun o => o.type != otScript) = false) :
    ∃ r, outs = s :: r ∧ s.type = T ∧ ∀ x ∈ r, x.type = otScript := by
  cases outs with
  | nil => cases hh
  | cons s' r =>
    cases hh
    refine ⟨r, rfl, by simpa using ht, fun x hx => ?_⟩
    simpa using List.any_eq_false.1 hr x hx

theorem validateMint_outputs {L tx} (h : validateMint L tx = .ok ()) :
    ∀ o ∈ tx.outputs, o.type = otScript := by
  unfold validateMint at h
  split at h
  · intro o ho
    simpa using List.any_eq_false.1 (guardRej_bind_ok.1 h).1 o ho
  · cases h

theorem validateDeposit_outputs {L O tx} (h : validateDeposit L O tx = .ok ()) :
    ∃ o, tx.outputs = [o] ∧ o.type = otScript := by
  unfold validateDeposit at h
  obtain ⟨_, h⟩ := guardRej_bind_ok.1 h
  obtain ⟨h1, h⟩ := guardRej_bind_ok.1 h
  obtain ⟨h2, _⟩ := guardRej_bind_ok.1 h
  obtain ⟨o, ho⟩ := length_eq_one_of_bne h1
  rw [ho] at h2
  exact ⟨o, ho, by simpa using h2⟩

theorem validateWithdrawalSubmit_outputs {tx f} (h : validateWithdrawalSubmit tx f = .ok ()) :
    ∃ s r, tx.outputs = s :: r ∧ s.type = otWithdrawalSubmit ∧ ∀ x ∈ r, x.type = otScript := by
  unfold validateWithdrawalSubmit at h
  obtain ⟨_, h⟩ := guardRej_bind_ok.1 h
  obtain ⟨hr, h⟩ := guardRej_bind_ok.1 h
  split at h
  · cases h
  · rename_i s hh
    exact ⟨s, head_tail_types hh (guardRej_bind_ok.1 h).1 hr⟩

theorem validateWithdrawalClaim_outputs {L O tx f} (h : validateWithdrawalClaim L O tx f = .ok ()) :
    ∃ s r, tx.outputs = s :: r ∧ s.type = otWithdrawalClaim ∧ ∀ x ∈ r, x.type = otScript := by
  unfold validateWithdrawalClaim at h
  obtain ⟨_, h⟩ := guardRej_bind_ok.1 h
  obtain ⟨_, h⟩ := guardRej_bind_ok.1 h
  obtain ⟨hr, h⟩ := guardRej_bind_ok.1 h
  split at h
  · split at h
    · cases h
    · rename_i s hh
      exact ⟨s, head_tail_types hh (guardRej_bind_ok.1 h).1 hr⟩
  · cases h

theorem validateNodePledge_outputs {L O tx f} (h : validateNodePledge L O tx f = .ok ()) :
    ∃ o, tx.outputs = [o] := by
  unfold validateNodePledge at h
  obtain ⟨_, h⟩ := guardRej_bind_ok.1 h
  exact length_eq_one_of_bne (guardRej_bind_ok.1 h).1

theorem validateNodeAccept_outputs {L O tx} (h : validateNodeAccept L O tx = .ok ()) :
    ∃ o, tx.outputs = [o] := by
  unfold validateNodeAccept at h
  obtain ⟨_, h⟩ := guardRej_bind_ok.1 h
  exact length_eq_one_of_bne (guardRej_bind_ok.1 h).1

theorem validateNodeRemove_outputs {L tx} (h : validateNodeRemove L tx = .ok ()) :
    ∃ o, tx.outputs = [o] := by
  unfold validateNodeRemove at h
  obtain ⟨_, h⟩ := guardRej_bind_ok.1 h
  exact length_eq_one_of_bne (guardRej_bind_ok.1 h).1

theorem validateNodeCancel_outputs {L O tx} (h : validateNodeCancel L O tx = .ok ()) :
    ∃ c s, tx.outputs = [c, s] ∧ c.type = otNodeCancel ∧ s.type = otScript := by
  unfold validateNodeCancel at h
  obtain ⟨_, h⟩ := guardRej_bind_ok.1 h
  obtain ⟨_, h⟩ := guardRej_bind_ok.1 h
  obtain ⟨_, h⟩ := guardRej_bind_ok.1 h
  split at h
  · rename_i c s _ _ ho _
    obtain ⟨_, h⟩ := guardRej_bind_ok.1 h
    obtain ⟨ht, _⟩ := guardRej_bind_ok.1 h
    rw [Bool.or_eq_false_iff] at ht
    exact ⟨c, s, ho, by simpa using ht.1, by simpa using ht.2⟩
  · cases h

theorem validateCustodianUpdateNodes_outputs {L O tx} (h : validateCustodianUpdateNodes L O tx = .ok ()) :
    ∃ o, tx.outputs = [o] ∧ o.type = otCustodianUpdate := by
  unfold validateCustodianUpdateNodes at h
  obtain ⟨_, h⟩ := guardRej_bind_ok.1 h
  obtain ⟨_, h⟩ := guardRej_bind_ok.1 h
  split at h
  · rename_i o ho
    exact ⟨o, ho, by simpa using (guardRej_bind_ok.1 h).1⟩
  · cases h

/-! ### which keys sign (C02) -/

def keysOf (L : Ledger) (inp : Input) : List Id :=
  match L.utxo inp.hash inp.index with
  | some u => u.keys
  | none => []

/-- the concatenated key list `allKeys` of validateInputs -/
def allKeysOf (L : Ledger) (ins : List Input) : List Id := (ins.map (keysOf L)).flatten

/-- where input `j`'s keys start in the concatenated list -/
def offsetAt (L : Ledger) (ins : List Input) (j : Nat) : Nat := (allKeysOf L (ins.take j)).length

theorem offsetAt_succ (L : Ledger) (x : Input) (r : List Input) (j : Nat) :
    offsetAt L (x :: r) (j + 1) = (keysOf L x).length + offsetAt L r j := by
  simp [offsetAt, allKeysOf]

theorem loopSpec_keys {L tx tt} : ∀ (ins : List Input) (k : Nat) (a a' : InAcc),
    LoopSpec L tx tt k ins a a' →
    a'.allKeys = a.allKeys ++ allKeysOf L ins ∧ (∀ e ∈ a.keySigs, e ∈ a'.keySigs) ∧
    ∀ j inp, ins[j]? = some inp → ∃ u ks, L.utxo inp.hash inp.index = some u ∧
      validateUTXO (k + j) u tx tt (a.allKeys.length + offsetAt L ins j) = .ok ks ∧
      (∀ e ∈ ks, e ∈ a'.keySigs) := by
  intro ins
  induction ins with
  | nil => intro k a a' h; cases h; simp [allKeysOf]
  | cons x rest ih =>
    intro k a a' ⟨_, _, _, u, ks, hu, _, _, hv, hrest⟩
    obtain ⟨h1, h2, h4⟩ := ih _ _ _ hrest
    have hk : keysOf L x = u.keys := by rw [keysOf, hu]
    refine ⟨?_, fun e he => h2 e (List.mem_append_left _ he), fun j inp hj => ?_⟩
    · rw [h1, accStep, List.append_assoc, ← hk]; rfl
    · cases j with
      | zero =>
        cases hj
        exact ⟨u, ks, hu, hv, fun e he => h2 e (List.mem_append_right _ he)⟩
      | succ j =>
        obtain ⟨u', ks', hu', hv', hs'⟩ := h4 j inp hj
        refine ⟨u', ks', hu', ?_, hs'⟩
        rw [offsetAt_succ, hk, ← Nat.add_assoc a.allKeys.length, ← List.length_append, Nat.add_comm j 1,
          ← Nat.add_assoc k]
        exact hv'

theorem validateUTXO_maps {k u tx tt off ks} (h : validateUTXO k u tx tt off = .ok ks) (hu : IsOrdinaryUtxo u)
    (hagg : tx.agg = none) :
    ∃ m, (tx.sigs.getD [])[k]? = some m ∧ (∀ p ∈ m, p.1 < u.keys.length) ∧ scriptFormatOk u.script = true ∧
      scriptThreshold u.script ≤ m.length ∧ ks = m.map (fun p => (u.keys.getD p.1 0, some p.2)) := by
  unfold validateUTXO at h
  rw [if_pos (isOrdinaryUtxo_iff.1 hu), hagg] at h
  simp only at h
  split at h
  · simp at h
  · rename_i m hm
    simp only [bind_ok, guardRej_ok, pure_ok, scriptValidate] at h
    obtain ⟨_, h1, _, h2, h3⟩ := h
    simp at h1 h2
    exact ⟨m, hm, fun p hp => h1 p.1 p.2 hp, h2.1, h2.2, h3.symm⟩

theorem validateUTXO_agg {k u tx tt off ks signers sig} (h : validateUTXO k u tx tt off = .ok ks)
    (hu : IsOrdinaryUtxo u) (hagg : tx.agg = some (signers, sig)) :
    signersOk signers = true ∧ scriptFormatOk u.script = true ∧
    scriptThreshold u.script ≤ (aggCollect u.keys off signers).length ∧
    ks = (aggCollect u.keys off signers).map (fun k => (k, none)) := by
  unfold validateUTXO at h
  rw [if_pos (isOrdinaryUtxo_iff.1 hu), hagg] at h
  simp only [bind_ok, guardRej_ok, pure_ok, scriptValidate] at h
  obtain ⟨_, h1, _, h2, h3⟩ := h
  simp at h1 h2
  exact ⟨h1, h2.1, h2.2, h3.symm⟩

def inRange (off len m : Nat) : Bool := off ≤ m && m < off + len

theorem inRange_iff {off len m : Nat} : inRange off len m = true ↔ off ≤ m ∧ m < off + len := by
  simp [inRange]

theorem incFrom_lt : ∀ (ms : List Nat) (m : Nat), incFrom (some m) ms = true → ∀ x ∈ ms, m < x := by
  intro ms
  induction ms with
  | nil => intro m _ x hx; simp at hx
  | cons y ys ih =>
    intro m h x hx
    simp [incFrom] at h
    rcases List.mem_cons.1 hx with rfl | hx
    · exact h.1.1
    · exact Nat.lt_trans h.1.1 (ih y h.2 x hx)

theorem incFrom_tail : ∀ (ms : List Nat) (p : Option Nat) (m : Nat), incFrom p (m :: ms) = true →
    incFrom (some m) ms = true := by
  intro ms p m h
  cases p <;> simp [incFrom] at h <;> exact h.2

/-- on a strictly increasing signer list the loop with `break` counts exactly the signers in range -/
theorem aggCollect_length (keys : List Id) (off : Nat) : ∀ (ms : List Nat) (p : Option Nat), incFrom p ms = true →
    (aggCollect keys off ms).length = (ms.filter (inRange off keys.length)).length
  | [], _, _ => rfl
  | m :: ms, p, h => by
    have ht := incFrom_tail ms p m h
    have ih := aggCollect_length keys off ms _ ht
    unfold aggCollect
    by_cases hge : m ≥ off + keys.length
    · rw [if_pos hge, List.filter_eq_nil_iff.2]
      intro x hx
      have : m ≤ x := (List.mem_cons.1 hx).elim (fun e => e ▸ Nat.le_refl _) fun hx =>
        Nat.le_of_lt (incFrom_lt ms m ht x hx)
      rw [inRange_iff]; omega
    · by_cases hlt : m < off
      · rw [if_neg hge, if_pos hlt, List.filter_cons_of_neg (by rw [inRange_iff]; omega), ih]
      · rw [if_neg hge, if_neg hlt, List.filter_cons_of_pos (by rw [inRange_iff]; omega), List.length_cons,
          List.length_cons, ih]

/-! ### the ledger view and the invariants of reachable states -/

theorem utxo_mem {L : Ledger} {h i u} (hu : L.utxo h i = some u) : u ∈ L.utxos ∧ u.hash = h ∧ u.index = i := by
  have hp := List.find?_some hu
  simp at hp
  exact ⟨List.mem_of_find?_eq_some hu, hp.1, hp.2⟩

theorem tx_mem {L : Ledger} {h t} (ht : L.tx h = some t) : t ∈ L.txs ∧ t.hash = h :=
  ⟨List.mem_of_find?_eq_some ht, by simpa using List.find?_some ht⟩

/-- ledger invariants of reachable states that `validate_total` needs -/
structure LedgerInv (L : Ledger) : Prop where
  /-- stored outputs have positive amounts (validateOutputs rejects zero) -/
  utxoPos : ∀ u ∈ L.utxos, 0 < u.amount
  /-- an unspent output's creating transaction is stored, and has that output with that type -/
  utxoTx : ∀ u ∈ L.utxos, ∃ t, L.tx u.hash = some t ∧ ∃ o, t.outputs[u.index]? = some o ∧ o.type = u.type
  /-- stored transactions have at least one output (Validate rejects empty output lists) -/
  txOutputs : ∀ t ∈ L.txs, t.outputs ≠ []
  /-- node states are one of the four written by the kernel -/
  nodeStates : ∀ n ∈ L.nodes, n.state = stPledging ∨ settled n.state = true
  /-- a pledging node records its (stored) pledge transaction -/
  pledgingTx : ∀ n ∈ L.nodes, n.state = stPledging → ∃ t, L.tx n.tx = some t ∧ t.txType = ttNodePledge
  /-- the snapshot time is not before the first custodian record (custodianEpoch ≤ ts) -/
  custodian : L.custodian.isSome = true
  /-- custodian nodes have distinct custodian addresses (ParseCustodianUpdateNodesExtra) -/
  custodianNodup : ∀ c, L.custodian = some c → (c.nodes.map (·.1)).Nodup

/-! ### no panic site is reached -/

theorem scriptValidate_np {sc n s} : scriptValidate sc n ≠ .error (.panic s) := guardRej_not_panic

theorem validateUTXO_np {i u tx tt off s} : validateUTXO i u tx tt off ≠ .error (.panic s) := by
  by_cases hu : IsOrdinaryUtxo u
  · unfold validateUTXO
    rw [if_pos (isOrdinaryUtxo_iff.1 hu)]
    split
    · exact guard_np <| bind_np scriptValidate_np fun _ _ => pure_ne_panic
    · split
      · exact rej_ne_panic
      · exact guard_np <| bind_np scriptValidate_np fun _ _ => pure_ne_panic
  · exact validateUTXO_other (P := fun r => r ≠ Except.error (Err.panic s)) hu pure_ne_panic rej_ne_panic

theorem sigPresence_np {tx tt s} : sigPresence tx tt ≠ .error (.panic s) := by
  unfold sigPresence; split <;> exact guardRej_not_panic

theorem validateReferences_np {L tx s} : validateReferences L tx ≠ .error (.panic s) :=
  guard_np guardRej_not_panic

theorem keysLoop_np {O s} : ∀ (ks g : List Id), keysLoop O ks g ≠ .error (.panic s)
  | [], _ => pure_ne_panic
  | k :: ks, g => by
    unfold keysLoop
    exact ite_np rej_ne_panic <| ite_np rej_ne_panic <| keysLoop_np ks _

theorem outputsLoop_np {O s} : ∀ (outs : List Output) (sum : Nat) (g : List Id),
    outputsLoop O outs sum g ≠ .error (.panic s)
  | [], _, _ => pure_ne_panic
  | o :: os, sum, g => by
    unfold outputsLoop
    refine guard_np <| guard_np <| bind_np (keysLoop_np _ _) fun _ _ => guard_np ?_
    split
    · exact rej_ne_panic
    · exact outputsLoop_np os _ _

theorem validateOutputs_np {L O tx i s} : validateOutputs L O tx i ≠ .error (.panic s) :=
  bind_np (outputsLoop_np _ _ _) fun _ _ => guard_np <| guard_np <| pure_ne_panic

/-- below the amount that buys the full capacity the cell count fits 64 bits -/
theorem count_some {x : Nat} (h1 : priceStep ≤ x) (h2 : x < priceStep * (extraCapacity / extraStep)) :
    ∃ c, Amount.count x priceStep = some c := by
  have hc : priceStep * (extraCapacity / extraStep) = 40960000 := by decide
  have hs : priceStep = 10000 := rfl
  rw [hc] at h2
  rw [hs] at h1 ⊢
  unfold Amount.count
  rw [if_neg (by omega), if_neg (by omega)]
  exact ⟨_, rfl⟩

theorem getExtraLimit_np {tx s} (hv : tx.version = Facts.Gen.common_TxVersionHashSignature) :
    getExtraLimit tx ≠ .error (.panic s) := by
  unfold getExtraLimit
  rw [if_neg (by rw [hv]; exact Nat.lt_irrefl _)]
  refine ite_np pure_ne_panic ?_
  split
  · exact pure_ne_panic
  · rename_i out _
    refine ite_np pure_ne_panic <| ite_np pure_ne_panic <| ite_np_of (fun _ => pure_ne_panic) fun h1 =>
      ite_np_of (fun _ => pure_ne_panic) fun h2 => ?_
    obtain ⟨c, hc⟩ := count_some (x := out.amount) (by omega) (by omega)
    rw [hc]
    exact ite_np pure_ne_panic pure_ne_panic

theorem structural_np {tx s} (hp : tx.payloadSize ≤ txMaxSize) : structural tx ≠ .error (.panic s) := by
  unfold structural
  refine guard_np_of fun hv => guard_np <| guard_np <| guard_np <| guard_np <|
    bind_np (getExtraLimit_np (by simpa using hv)) fun _ _ => guard_np <| bind_np ?_ fun _ _ =>
    guardRej_not_panic
  rw [guardPan, if_neg (by simpa using hp)]
  exact pure_ne_panic

theorem loop_np {L : Ledger} {tx tt fork s} (hpos : ∀ u ∈ L.utxos, 0 < u.amount) :
    ∀ (ins : List Input) (k : Nat) (a : InAcc), inputsLoop L tx tt fork k ins a ≠ .error (.panic s)
  | [], _, _ => pure_ne_panic
  | inp :: rest, k, a => by
    rcases inputsLoop_cons (r := inputsLoop L tx tt fork k (inp :: rest) a) rfl with
      h | ⟨_, h⟩ | ⟨_, _, u, hu, _, h⟩
    · rw [h]; exact rej_ne_panic
    · rw [h]; exact pure_ne_panic
    · rw [h]
      refine bind_np validateUTXO_np fun ks _ => ?_
      rw [if_neg (Nat.ne_of_gt (hpos u (utxo_mem hu).1))]
      exact loop_np hpos rest _ _

theorem validateInputs_np {L : Ledger} {O tx tt fork s} (hpos : ∀ u ∈ L.utxos, 0 < u.amount) :
    validateInputs L O tx tt fork ≠ .error (.panic s) := by
  refine bind_np (loop_np hpos _ _ _) fun r _ => ?_
  cases r with
  | early fl amt => exact pure_ne_panic
  | full a =>
    refine ite_np pure_ne_panic <| ite_np rej_ne_panic ?_
    split <;> exact ite_np pure_ne_panic rej_ne_panic

theorem validateScript_np {f s} : validateScript f ≠ .error (.panic s) := guardRej_not_panic

theorem validateMint_np {L tx s} (ht : txType tx = ttMint) : validateMint L tx ≠ .error (.panic s) := by
  unfold validateMint
  split
  · rename_i inp hi
    obtain ⟨m, hm⟩ := Option.isSome_iff_exists.1 ((single_input_type hi).1 ht)
    rw [hm]
    refine guard_np <| guard_np <| guard_np ?_
    split
    · exact pure_ne_panic
    · exact ite_np rej_ne_panic <| ite_np pure_ne_panic guardRej_not_panic
  · exact rej_ne_panic

theorem verifyDepositData_np {L tx s x d} (hx : tx.inputs = [x]) (hd : x.deposit = some d) :
    verifyDepositData L tx ≠ .error (.panic s) := by
  unfold verifyDepositData
  simp only [hx, List.head?_cons, hd]
  refine guard_np <| guard_np_of fun hz => guard_np ?_
  split
  · exact pure_ne_panic
  · rw [Amount.add, if_neg (by simpa using hz)]
    exact guard_np guardRej_not_panic

theorem validateDeposit_np {L : Ledger} {O tx s} (ht : txType tx = ttDeposit) (hc : L.custodian.isSome = true) :
    validateDeposit L O tx ≠ .error (.panic s) := by
  unfold validateDeposit
  refine guard_np_of fun h1 => guard_np <| guard_np ?_
  obtain ⟨x, hx⟩ := length_eq_one_of_bne h1
  obtain ⟨d, hd⟩ := Option.isSome_iff_exists.1 ((single_input_type hx).2 ht)
  obtain ⟨c, hc⟩ := Option.isSome_iff_exists.1 hc
  split
  · exact rej_ne_panic
  · refine bind_np (verifyDepositData_np hx hd) fun _ _ => ?_
    split
    · exact rej_ne_panic
    · simp only [hc, hx, List.head?_cons, Option.bind_some, hd]
      refine guard_np ?_
      split
      · exact guardRej_not_panic
      · exact pure_ne_panic

theorem validateWithdrawalSubmit_np {tx f s} (ho : 1 ≤ tx.outputs.length) :
    validateWithdrawalSubmit tx f ≠ .error (.panic s) := by
  unfold validateWithdrawalSubmit
  refine guard_np <| guard_np ?_
  cases ht : tx.outputs with
  | nil => simp [ht] at ho
  | cons submit r => exact guard_np <| guard_np guardRej_not_panic

theorem validateWithdrawalClaim_np {L : Ledger} {O tx f s} (ho : 1 ≤ tx.outputs.length)
    (hc : L.custodian.isSome = true) (hto : ∀ t ∈ L.txs, t.outputs ≠ []) :
    validateWithdrawalClaim L O tx f ≠ .error (.panic s) := by
  unfold validateWithdrawalClaim
  refine guard_np <| guard_np <| guard_np ?_
  split
  · cases ht : tx.outputs with
    | nil => simp [ht] at ho
    | cons claim r =>
      refine guard_np <| guard_np ?_
      split
      · exact rej_ne_panic
      · rename_i submit hs
        cases hso : submit.outputs with
        | nil => exact absurd hso (hto submit (tx_mem hs).1)
        | cons so r' =>
          obtain ⟨c, hc⟩ := Option.isSome_iff_exists.1 hc
          rw [hc]
          exact guard_np <| guard_np guardRej_not_panic
  · exact rej_ne_panic

theorem validateNodePledge_np {L O tx fork f i s}
    (hin : validateInputs L O tx (txType tx) fork = .ok (f, i)) (ht : txType tx = ttNodePledge) :
    validateNodePledge L O tx f ≠ .error (.panic s) := by
  obtain ⟨a, hl, hf, _⟩ := inputs_full hin (by rw [ht]; decide) (by rw [ht]; decide)
  unfold validateNodePledge
  refine guard_np <| guard_np <| guard_np_of fun h3 => ?_
  obtain ⟨x, hx⟩ := length_eq_one_of_bne (Bool.or_eq_false_iff.1 h3).1
  obtain ⟨u, ks, _, _, hfil, _⟩ := loop_single hx hl
  simp only [hx, List.head?_cons, hf, hfil, List.find?_cons, BEq.rfl]
  exact guard_np <| guard_np <| guard_np guardRej_not_panic

/-- the node scan never dereferences nil when every state is one the kernel writes, and it
    returns a member in PLEDGING state -/
theorem findPledging_spec {site : Site} : ∀ (nodes : List NodeRec) (p : Option NodeRec),
    (∀ n ∈ nodes, n.state = stPledging ∨ settled n.state = true) →
    (∀ s, findPledging site nodes p ≠ .error (.panic s)) ∧
    (∀ r, findPledging site nodes p = .ok (some r) → p = some r ∨ (r ∈ nodes ∧ r.state = stPledging))
  | [], p, _ => ⟨fun _ => pure_ne_panic, fun r h => Or.inl (pure_ok.1 h)⟩
  | n :: ns, p, hst => by
    obtain ⟨hn, hns⟩ := List.forall_mem_cons.1 hst
    have ih := fun q => findPledging_spec (site := site) ns q hns
    have tail : ∀ {q r}, q = some r ∨ (r ∈ ns ∧ r.state = stPledging) →
        q = some r ∨ (r ∈ n :: ns ∧ r.state = stPledging) :=
      fun h => h.imp_right fun h => ⟨List.mem_cons_of_mem _ h.1, h.2⟩
    unfold findPledging
    by_cases hs : settled n.state = true
    · rw [if_pos hs]
      exact ⟨(ih p).1, fun r hr => tail ((ih p).2 r hr)⟩
    · have hp := hn.resolve_right hs
      rw [if_neg hs]
      cases p with
      | none =>
        rw [if_pos (by rw [hp]; rfl)]
        refine ⟨(ih _).1, fun r hr => ?_⟩
        rcases (ih _).2 r hr with h | h
        · cases h; exact Or.inr ⟨List.mem_cons_self, hp⟩
        · exact tail (Or.inr h)
      | some q =>
        rw [if_neg (by simp), if_neg (by simp)]
        exact ⟨fun _ => rej_ne_panic, fun r hr => absurd hr rej_ne_ok⟩

theorem validateNodeAccept_np {L : Ledger} {O tx s} (hI : LedgerInv L) :
    validateNodeAccept L O tx ≠ .error (.panic s) := by
  unfold validateNodeAccept
  refine guard_np <| guard_np <| guard_np ?_
  split
  · rename_i sig inp _ _
    have hfp := findPledging_spec (site := .validateNodeAccept) L.nodes none hI.nodeStates
    refine bind_np (hfp.1 s) fun r hr => ?_
    cases r with
    | none => exact rej_ne_panic
    | some pledging =>
      refine guard_np_of fun heq => ?_
      rcases hfp.2 pledging hr with hc | ⟨hmem, hst⟩
      · cases hc
      · obtain ⟨t, ht, htt⟩ := hI.pledgingTx pledging hmem hst
        rw [← (by simpa using heq : pledging.tx = inp.hash), ht]
        dsimp only
        split
        · refine guard_np ?_
          rw [htt, if_neg (by decide)]
          exact guard_np <| guard_np guardRej_not_panic
        · exact rej_ne_panic
  · exact rej_ne_panic

theorem validateNodeRemove_np {L : Ledger} {O tx fork f i s} (hI : LedgerInv L)
    (hin : validateInputs L O tx (txType tx) fork = .ok (f, i)) (ht : txType tx = ttNodeRemove) :
    validateNodeRemove L tx ≠ .error (.panic s) := by
  obtain ⟨a, hl, _, _⟩ := inputs_full hin (by rw [ht]; decide) (by rw [ht]; decide)
  unfold validateNodeRemove
  refine guard_np <| guard_np <| guard_np ?_
  split
  · rename_i inp hx
    obtain ⟨u, ks, hu, _, _, _⟩ := loop_single hx hl
    obtain ⟨hm, hh, _⟩ := utxo_mem hu
    obtain ⟨t, htx, _⟩ := hI.utxoTx u hm
    rw [← hh, htx]
    refine guard_np ?_
    split
    · exact guard_np guardRej_not_panic
    · exact rej_ne_panic
  · exact rej_ne_panic

theorem mapOf_eq_self : ∀ (l : List (Id × Id)), (l.map (·.1)).Nodup → mapOf l = l
  | [], _ => rfl
  | (k, v) :: r, h => by
    obtain ⟨hk, hr⟩ := List.nodup_cons.1 h
    rw [mapOf, mapOf_eq_self r hr, List.filter_eq_self.2]
    exact fun e he => bne_iff_ne.2 fun hc => hk (List.mem_map.2 ⟨e, he, hc⟩)

theorem validateCustodianUpdateNodes_np {L : Ledger} {O tx s} (hI : LedgerInv L) :
    validateCustodianUpdateNodes L O tx ≠ .error (.panic s) := by
  unfold validateCustodianUpdateNodes
  refine guard_np <| guard_np ?_
  split
  · refine guard_np <| guard_np ?_
    split
    · exact rej_ne_panic
    · refine guard_np ?_
      split
      · exact rej_ne_panic
      · rename_i prev hp
        have hlen : (mapOfLast prev.nodes).length = prev.nodes.length := by
          rw [mapOfLast, mapOf_eq_self _ (by rw [List.map_reverse]; exact (List.reverse_perm _).nodup_iff.mpr (hI.custodianNodup prev hp)),
            List.length_reverse]
        refine guard_np ?_
        rw [if_neg (by simp [hlen])]
        exact guard_np <| ite_np pure_ne_panic guardRej_not_panic
  · exact rej_ne_panic

/-- Under the ledger invariants a node-cancel typed transaction that passed `validateInputs` is
    rejected by `validateNodeCancel`: its one input collected a signature, so it spends a script or
    node-remove output, while the transaction that created it would have to be the pledge with its
    single pledge output. -/
theorem validateNodeCancel_rej {L : Ledger} {O tx fork f i} (hI : LedgerInv L)
    (hin : validateInputs L O tx (txType tx) fork = .ok (f, i)) (ht : txType tx = ttNodeCancel) :
    validateNodeCancel L O tx = rej := by
  obtain ⟨a, hl, _, _⟩ := inputs_full hin (by rw [ht]; decide) (by rw [ht]; decide)
  unfold validateNodeCancel
  refine guard_rej <| guard_rej <| guard_rej ?_
  split
  · rename_i sig cancel script inp _ _ hx
    obtain ⟨u, ks, hu, hv, _, hk⟩ := loop_single hx hl
    have hne : ks ≠ [] := by
      rcases (validateInputs_full_ok hin hl).2.2 with ⟨_, h⟩ | ⟨h, _⟩
      · rw [ht] at h; exact absurd h (by decide)
      · intro hc; rw [hx, hk, hc] at h; cases h
    obtain ⟨hm, hh, _⟩ := utxo_mem hu
    obtain ⟨t, htx, o, ho, hot⟩ := hI.utxoTx u hm
    refine guard_rej <| guard_rej <| guard_rej <| guard_rej <|
      bind_rej (findPledging_spec L.nodes none hI.nodeStates).1 fun r _ => ?_
    cases r with
    | none => rfl
    | some pledging =>
      refine guard_rej ?_
      rw [← hh, htx]
      dsimp only
      split
      · rename_i po hpo
        have hpo' : po.type = u.type := by
          have : o = po := List.mem_singleton.1 (hpo ▸ List.mem_of_getElem? ho)
          rw [← hot, this]
        have : (po.type != otNodePledge) = true := by
          rcases validateUTXO_collects hv hne with h | h <;> rw [hpo', h] <;> decide
        rw [this]; rfl
      · rfl
  · rfl

theorem validateNodeCancel_np {L : Ledger} {O tx fork f i s} (hI : LedgerInv L)
    (hin : validateInputs L O tx (txType tx) fork = .ok (f, i)) (ht : txType tx = ttNodeCancel) :
    validateNodeCancel L O tx ≠ .error (.panic s) := by
  rw [validateNodeCancel_rej hI hin ht]; exact rej_ne_panic

end Mixin.Validate
