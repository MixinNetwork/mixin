import Mixin.Proofs.TxCodec
import Mixin.Proofs.Basics
/-! Inversion lemmas for C06 `decode_wf`: whatever a reader returns satisfies the
    representation invariants and the encoder's panic guards. -/
namespace Mixin.TxCodec
open Mixin Mixin.Bytes

/-- One step of a reader written in `do` notation: the first read succeeded, and the rest of
    the block ran on its result. -/
theorem bind_pair_some {α β : Type} {f : Option (α × Bytes)} {k : α × Bytes → Option β} {b : β}
    (h : f.bind k = some b) : ∃ x s, f = some (x, s) ∧ k (x, s) = some b := by
  obtain ⟨⟨x, s⟩, h1, h2⟩ := Option.bind_eq_some_iff.mp h
  exact ⟨x, s, h1, h2⟩

theorem readMany_some {α : Type} {f : Bytes → Option (α × Bytes)} {P : α → Prop}
    (hf : ∀ s x r, f s = some (x, r) → P x) {n : Nat} {s : Bytes} {xs : List α} {r : Bytes}
    (h : readMany f n s = some (xs, r)) : xs.length = n ∧ ∀ x ∈ xs, P x := by
  fun_induction readMany f n s generalizing xs with
  | case1 =>
    cases h
    exact ⟨rfl, nofun⟩
  | case2 | case3 => cases h
  | case4 n s x s1 hx ys s2 hys ih =>
    cases h
    have ⟨hl, hp⟩ := ih hys
    exact ⟨congrArg (· + 1) hl, List.forall_mem_cons.mpr ⟨hf _ _ _ hx, hp⟩⟩

theorem readCounted_some {α : Type} {f : Bytes → Option (α × Bytes)} {P : α → Prop} {lim : Nat}
    (hf : ∀ s x r, f s = some (x, r) → P x) {s : Bytes} {xs : List α} {r : Bytes}
    (h : readCounted lim f s = some (xs, r)) : xs.length ≤ lim ∧ ∀ x ∈ xs, P x := by
  unfold readCounted at h
  split at h
  · cases h
  · rename_i n s1 _
    obtain ⟨hn, h⟩ := of_ite_eq h nofun
    have ⟨hl, hp⟩ := readMany_some hf h
    exact ⟨hl ▸ Nat.not_lt.mp hn, hp⟩

theorem readDeposit_wf {s r : Bytes} {d : Deposit} (h : readDeposit s = some (d, r)) :
    repDeposit d = true ∧ guardsDeposit d = true := by
  unfold readDeposit at h
  obtain ⟨chain, s1, h1, h⟩ := bind_pair_some h
  obtain ⟨ak, s2, h2, h⟩ := bind_pair_some h
  obtain ⟨th, s3, h3, h⟩ := bind_pair_some h
  obtain ⟨oi, s4, h4, h⟩ := bind_pair_some h
  obtain ⟨amt, s5, h5, h⟩ := bind_pair_some h
  cases h
  simp only [repDeposit, guardsDeposit, Bool.and_eq_true, beq_iff_eq, decide_eq_true_eq]
  exact ⟨⟨readN_length h1, (readU64_some h4).2⟩,
    ⟨readBytes_length_le h2, readBytes_length_le h3⟩, readInteger_byteLen_le h5⟩

theorem readMint_wf {s r : Bytes} {m : Mint} (h : readMint s = some (m, r)) :
    repMint m = true ∧ guardsMint m = true := by
  unfold readMint at h
  obtain ⟨gb, s1, h1, h⟩ := bind_pair_some h
  obtain ⟨bi, s2, h2, h⟩ := bind_pair_some h
  obtain ⟨amt, s3, h3, h⟩ := bind_pair_some h
  cases h
  simp only [repMint, guardsMint, Bool.and_eq_true, decide_eq_true_eq]
  exact ⟨(readU64_some h2).2, readBytes_length_le h1, readInteger_byteLen_le h3⟩

theorem readOptDeposit_wf {s r : Bytes} {d : Option Deposit} (h : readOptDeposit s = some (d, r)) :
    d.all repDeposit = true ∧ d.all guardsDeposit = true := by
  unfold readOptDeposit at h
  obtain ⟨hd, s1, _, h⟩ := bind_pair_some h
  dsimp only at h
  cases hd with
  | false =>
    cases h
    exact ⟨rfl, rfl⟩
  | true =>
    rw [if_pos rfl] at h
    obtain ⟨d', s2, h2, h⟩ := bind_pair_some h
    cases h
    exact readDeposit_wf h2

theorem readOptMint_wf {s r : Bytes} {m : Option Mint} (h : readOptMint s = some (m, r)) :
    m.all repMint = true ∧ m.all guardsMint = true := by
  unfold readOptMint at h
  obtain ⟨hm, s1, _, h⟩ := bind_pair_some h
  dsimp only at h
  cases hm with
  | false =>
    cases h
    exact ⟨rfl, rfl⟩
  | true =>
    rw [if_pos rfl] at h
    obtain ⟨m', s2, h2, h⟩ := bind_pair_some h
    cases h
    exact readMint_wf h2

theorem readInput_wf (s : Bytes) (i : Input) (r : Bytes) (h : readInput s = some (i, r)) :
    repInput i = true ∧ guardsInput i = true := by
  unfold readInput at h
  obtain ⟨hash, s1, h1, h⟩ := bind_pair_some h
  obtain ⟨ii, s2, _, h⟩ := bind_pair_some h
  dsimp only at h
  obtain ⟨hii, h⟩ := of_ite_eq h nofun
  obtain ⟨gb, s3, h3, h⟩ := bind_pair_some h
  obtain ⟨d, s4, h4, h⟩ := bind_pair_some h
  obtain ⟨m, s5, h5, h⟩ := bind_pair_some h
  cases h
  have hd := readOptDeposit_wf h4
  have hm := readOptMint_wf h5
  simp only [repInput, guardsInput, Bool.and_eq_true, beq_iff_eq, decide_eq_true_eq]
  exact ⟨⟨⟨readN_length h1, hd.1⟩, hm.1⟩,
    ⟨⟨Nat.not_lt.mp hii, readBytes_length_le h3⟩, hd.2⟩, hm.2⟩

theorem readOptWithdrawal_wf {s r : Bytes} {w : Option Withdrawal}
    (h : readOptWithdrawal s = some (w, r)) : w.all guardsWithdrawal = true := by
  unfold readOptWithdrawal at h
  obtain ⟨hw, s1, _, h⟩ := bind_pair_some h
  dsimp only at h
  cases hw with
  | false =>
    cases h
    rfl
  | true =>
    rw [if_pos rfl] at h
    obtain ⟨ab, s2, h2, h⟩ := bind_pair_some h
    obtain ⟨tb, s3, h3, h⟩ := bind_pair_some h
    cases h
    simp only [Option.all_some, guardsWithdrawal, Bool.and_eq_true, decide_eq_true_eq]
    exact ⟨readBytes_length_le h2, readBytes_length_le h3⟩

theorem readOutputL_wf (lim : Nat) (hlim : lim ≤ 65535) (s : Bytes) (o : Output) (r : Bytes)
    (h : readOutputL lim s = some (o, r)) :
    repOutput o = true ∧ guardsOutput o = true ∧ o.keys.length ≤ lim := by
  unfold readOutputL at h
  obtain ⟨t, s1, _, h⟩ := bind_pair_some h
  obtain ⟨amt, s2, h2, h⟩ := bind_pair_some h
  obtain ⟨kc, s3, _, h⟩ := bind_pair_some h
  dsimp only at h
  obtain ⟨hkc, h⟩ := of_ite_eq h nofun
  obtain ⟨keys, s4, h4, h⟩ := bind_pair_some h
  obtain ⟨mask, s5, h5, h⟩ := bind_pair_some h
  obtain ⟨sb, s6, h6, h⟩ := bind_pair_some h
  obtain ⟨w, s7, h7, h⟩ := bind_pair_some h
  cases h
  have ⟨hkl, hk⟩ := readMany_some (fun _ _ _ hx => readN_length hx) h4
  have hkl : keys.length ≤ lim := hkl ▸ Nat.not_lt.mp hkc
  simp only [repOutput, guardsOutput, Bool.and_eq_true, beq_iff_eq, List.all_eq_true,
    decide_eq_true_eq]
  exact ⟨⟨hk, readN_length h5⟩,
    ⟨⟨⟨readInteger_byteLen_le h2, Nat.le_trans hkl hlim⟩, readBytes_length_le h6⟩,
      readOptWithdrawal_wf h7⟩, hkl⟩

theorem mem_sigInsert {k : Nat} {v : Bytes} {m : SigMap} {e : Nat × Bytes}
    (h : e ∈ sigInsert k v m) : e = (k, v) ∨ e ∈ m := by
  fun_induction sigInsert k v m with
  | case1 => exact Or.inl (List.mem_singleton.mp h)
  | case2 k' v' r hlt => exact List.mem_cons.mp h
  | case3 v' r hlt => exact (List.mem_cons.mp h).imp_right (List.mem_cons_of_mem _)
  | case4 k' v' r hlt hne ih =>
    rcases List.mem_cons.mp h with h | h
    · exact Or.inr (h ▸ List.mem_cons_self)
    · exact (ih h).imp_right (List.mem_cons_of_mem _)

theorem sigInsert_sorted {k : Nat} {v : Bytes} {m : SigMap}
    (h : m.Pairwise (fun a b => a.1 < b.1)) : (sigInsert k v m).Pairwise (fun a b => a.1 < b.1) := by
  fun_induction sigInsert k v m with
  | case1 => exact List.pairwise_singleton _ _
  | case2 k' v' r hlt =>
    refine List.pairwise_cons.mpr ⟨fun e he => ?_, h⟩
    rcases List.mem_cons.mp he with rfl | he
    · exact hlt
    · exact Nat.lt_trans hlt ((List.pairwise_cons.mp h).1 e he)
  | case3 v' r hlt => exact List.pairwise_cons.mpr (List.pairwise_cons.mp h)
  | case4 k' v' r hlt hne ih =>
    have ⟨hk', hr⟩ := List.pairwise_cons.mp h
    refine List.pairwise_cons.mpr ⟨fun e he => ?_, ih hr⟩
    rcases mem_sigInsert he with rfl | he
    · exact Nat.lt_of_le_of_ne (Nat.not_lt.mp hlt) (Ne.symm hne)
    · exact hk' e he

theorem readSigEntries_wf {n : Nat} {acc : SigMap} {s : Bytes} {m : SigMap} {r : Bytes}
    (h : readSigEntries n acc s = some (m, r))
    (hs : acc.Pairwise (fun a b => a.1 < b.1))
    (hv : ∀ e ∈ acc, e.1 < 65536 ∧ e.2.length = 64) :
    m.Pairwise (fun a b => a.1 < b.1) ∧ ∀ e ∈ m, e.1 < 65536 ∧ e.2.length = 64 := by
  fun_induction readSigEntries n acc s with
  | case1 =>
    cases h
    exact ⟨hs, hv⟩
  | case2 | case3 => cases h
  | case4 n acc s si s1 h1 sig s2 h2 ih =>
    apply ih h (sigInsert_sorted hs)
    intro e he
    rcases mem_sigInsert he with rfl | he
    · exact ⟨(readU16_some h1).2, readN_length h2⟩
    · exact hv e he

theorem readSignatures_wf (s : Bytes) (m : SigMap) (r : Bytes) (h : readSignatures s = some (m, r)) :
    repSigMap m = true ∧ m.length ≤ 65535 := by
  unfold readSignatures at h
  obtain ⟨sc, s1, h1, h⟩ := bind_pair_some h
  obtain ⟨m', s2, h2, h⟩ := bind_pair_some h
  dsimp only at h
  obtain ⟨hlen, h⟩ := of_ite_eq h nofun
  cases h
  have ⟨hs, hv⟩ := readSigEntries_wf h2 List.Pairwise.nil nofun
  refine ⟨?_, Nat.le_of_lt_succ (Decidable.not_not.mp hlen ▸ (readU16_some h1).2)⟩
  simp only [repSigMap, Bool.and_eq_true, sortedKeysFrom_iff, List.all_eq_true, decide_eq_true_eq,
    beq_iff_eq]
  exact ⟨⟨nofun, hs⟩, hv⟩

theorem readAgg_wf {s r : Bytes} {a : AggSig} (h : readAgg s = some (a, r)) :
    a.sig.length = 64 ∧ guardsAgg a = true := by
  unfold readAgg at h
  obtain ⟨sig, s1, h1, h⟩ := bind_pair_some h
  obtain ⟨typ, s2, _, h⟩ := bind_pair_some h
  obtain ⟨signers, s3, _, h⟩ := bind_pair_some h
  dsimp only at h
  obtain ⟨hv, h⟩ := Option.ite_none_right_eq_some.mp h
  cases h
  exact ⟨readN_length h1, Bool.or_eq_true_iff.mpr (Or.inr hv)⟩

theorem readAuth_wf {s r : Bytes} {agg : Option AggSig} {sigs : List SigMap}
    (h : readAuth s = some ((agg, sigs), r)) : AuthOk agg sigs := by
  unfold readAuth at h
  obtain ⟨sl, s1, _, h⟩ := bind_pair_some h
  dsimp only at h
  by_cases hagg : sl = maxEncodingInt
  · rw [if_pos hagg] at h
    obtain ⟨pre, s2, _, h⟩ := bind_pair_some h
    dsimp only at h
    obtain ⟨_, h⟩ := Option.ite_none_right_eq_some.mp h
    obtain ⟨js, s3, h3, h⟩ := bind_pair_some h
    cases h
    have ⟨ha, hg⟩ := readAgg_wf h3
    exact ⟨by rw [repAuth, Option.all_some, ha]; rfl, hg, Nat.zero_le _, rfl⟩
  · rw [if_neg hagg] at h
    by_cases hpos : sl > 0
    · rw [if_pos hpos] at h
      obtain ⟨sms, s2, h2, h⟩ := bind_pair_some h
      cases h
      have ⟨hl, hp⟩ := readMany_some readSignatures_wf h2
      have hl : sms.length ≤ sliceCountLimit := Nat.le_trans (Nat.le_of_eq hl) (Nat.min_le_right _ _)
      refine ⟨List.all_eq_true.mpr fun m hm => (hp m hm).1, ?_, hl, rfl⟩
      simp only [guardsAuth, Bool.and_eq_true, decide_eq_true_eq, List.all_eq_true]
      exact ⟨Nat.lt_of_le_of_lt hl (by decide), fun m hm => (hp m hm).2⟩
    · rw [if_neg hpos] at h
      cases h
      exact ⟨rfl, rfl, Nat.zero_le _, rfl⟩

theorem readExtra_wf {s r extra : Bytes} (h : readExtra s = some (extra, r)) :
    extra.length ≤ extraCapacity := by
  unfold readExtra at h
  split at h
  · cases h
  · rename_i el s1 _
    obtain ⟨hcap, h⟩ := of_ite_eq h nofun
    by_cases hpos : el > 0
    · rw [if_pos hpos] at h
      exact readN_length h ▸ Nat.not_lt.mp hcap
    · rw [if_neg hpos] at h
      cases h
      exact Nat.zero_le _

theorem readVersion_wf {s r : Bytes} {v : UInt8} (h : readVersion s = some (v, r)) : v = txVersion := by
  unfold readVersion at h
  split at h
  · cases h
  · split at h
    · cases h
      rfl
    · cases h

theorem readPayload_wf {s r : Bytes} {p : Payload} (h : readPayload s = some (p, r)) :
    PayloadOk p := by
  unfold readPayload readPayloadL at h
  obtain ⟨v, s1, h1, h⟩ := bind_pair_some h
  obtain ⟨asset, s2, h2, h⟩ := bind_pair_some h
  obtain ⟨ins, s3, h3, h⟩ := bind_pair_some h
  obtain ⟨outs, s4, h4, h⟩ := bind_pair_some h
  obtain ⟨refs, s5, h5, h⟩ := bind_pair_some h
  obtain ⟨extra, s6, h6, h⟩ := bind_pair_some h
  cases h
  have ⟨hil, hi⟩ := readCounted_some readInput_wf h3
  have ⟨hol, ho⟩ := readCounted_some (readOutputL_wf sliceCountLimit (by decide)) h4
  have ⟨hrl, hr⟩ := readCounted_some (fun _ _ _ hx => readN_length hx) h5
  refine ⟨?_, ?_, hrl, fun o ho' => (ho o ho').2.2⟩
  · simp only [repPayload, Bool.and_eq_true, beq_iff_eq, List.all_eq_true]
    exact ⟨⟨⟨readN_length h2, fun i hi' => (hi i hi').1⟩, fun o ho' => (ho o ho').1⟩, hr⟩
  · simp only [guardsPayload, guardsBody, Bool.and_eq_true, beq_iff_eq, List.all_eq_true,
      decide_eq_true_eq]
    exact ⟨readVersion_wf h1, ⟨⟨⟨⟨hil, fun i hi' => (hi i hi').2⟩, hol⟩, fun o ho' => (ho o ho').2.1⟩,
      Nat.le_trans hrl (by decide)⟩, readExtra_wf h6⟩

end Mixin.TxCodec
