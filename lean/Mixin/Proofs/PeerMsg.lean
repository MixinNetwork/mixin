import Mixin.Model.PeerMsg
import Mixin.Proofs.Basics
/-!
Lemmas about the model of `p2p/handle.go`.

* Slice expressions: their value when in range, Go's re-slicing law, and their value on a
  concatenation of fields of known length (what a builder produces).
* `Res.Safe`: each `case` of the parser's switch is walked once, giving in one statement that it
  does not panic, that it leaves type and version alone, and which points of its result were checked.
* Big-endian numbers, and the parser's loops run on what the builders' loops wrote.
-/
namespace Mixin.PeerMsg
open Mixin.Proto (Bytes)

theorem slice_of_le {b : Bytes} {lo hi : Nat} (h1 : lo ≤ hi) (h2 : hi ≤ b.length) :
    slice b lo hi = some ((b.drop lo).take (hi - lo)) :=
  if_pos ⟨h1, h2⟩

theorem sliceFrom_of_le {b : Bytes} {lo : Nat} (h : lo ≤ b.length) : sliceFrom b lo = some (b.drop lo) :=
  if_pos h

theorem slice_eq_some {b : Bytes} {lo hi : Nat} {r : Bytes} (h : slice b lo hi = some r) :
    lo ≤ hi ∧ hi ≤ b.length ∧ r = (b.drop lo).take (hi - lo) := by
  unfold slice at h
  split at h
  · next hc => exact ⟨hc.1, hc.2, (Option.some.inj h).symm⟩
  · cases h

theorem slice_eq_none {b : Bytes} {lo hi : Nat} (h : slice b lo hi = none) :
    ¬ (lo ≤ hi ∧ hi ≤ b.length) :=
  fun hc => by rw [slice_of_le hc.1 hc.2] at h; cases h

theorem sliceFrom_eq_some {b : Bytes} {lo : Nat} {r : Bytes} (h : sliceFrom b lo = some r) :
    lo ≤ b.length ∧ r = b.drop lo := by
  unfold sliceFrom at h
  split at h
  · next hc => exact ⟨hc, (Option.some.inj h).symm⟩
  · cases h

theorem sliceFrom_eq_none {b : Bytes} {lo : Nat} (h : sliceFrom b lo = none) : ¬ lo ≤ b.length :=
  fun hc => by rw [sliceFrom_of_le hc] at h; cases h

/-! ### Go's `b[off+i : off+j] = b[off:][i:j]` -/

theorem slice_add (b : Bytes) (off i j : Nat) :
    slice b (off + i) (off + j) = (sliceFrom b off).bind (slice · i j) := by
  by_cases h : off ≤ b.length
  · obtain ⟨n, hn⟩ := Nat.exists_eq_add_of_le h
    rw [sliceFrom_of_le h, Option.bind_some]
    simp only [slice, List.drop_drop, List.length_drop, hn, Nat.add_le_add_iff_left, Nat.add_sub_cancel_left,
      Nat.add_sub_add_left]
  · have h' : ¬ (off + i ≤ off + j ∧ off + j ≤ b.length) := fun hc => h (Nat.le_trans (Nat.le_add_right _ _) hc.2)
    rw [slice, if_neg h', sliceFrom, if_neg h]; rfl

theorem slice_add_left (b : Bytes) (off j : Nat) :
    slice b off (off + j) = (sliceFrom b off).bind (slice · 0 j) :=
  slice_add b off 0 j

theorem sliceFrom_add (b : Bytes) (off k : Nat) :
    sliceFrom b (off + k) = (sliceFrom b off).bind (sliceFrom · k) := by
  by_cases h : off ≤ b.length
  · obtain ⟨n, hn⟩ := Nat.exists_eq_add_of_le h
    rw [sliceFrom_of_le h, Option.bind_some]
    simp only [sliceFrom, List.drop_drop, List.length_drop, hn, Nat.add_le_add_iff_left, Nat.add_sub_cancel_left]
  · have h' : ¬ off + k ≤ b.length := fun hc => h (Nat.le_trans (Nat.le_add_right _ _) hc)
    rw [sliceFrom, if_neg h', sliceFrom, if_neg h]; rfl

theorem sliceFrom_zero (l : Bytes) : sliceFrom l 0 = some l := sliceFrom_of_le (Nat.zero_le _)

theorem sliceFrom_cons (x : UInt8) (l : Bytes) (n : Nat) : sliceFrom (x :: l) (n + 1) = sliceFrom l n := by
  simp [sliceFrom]

theorem slice_cons (x : UInt8) (l : Bytes) (lo hi : Nat) :
    slice (x :: l) (lo + 1) (hi + 1) = slice l lo hi := by
  simp [slice]

theorem sliceFrom_append_add (a b : Bytes) (k : Nat) : sliceFrom (a ++ b) (a.length + k) = sliceFrom b k := by
  simp only [sliceFrom, List.drop_length_add_append, List.length_append, Nat.add_le_add_iff_left]

theorem slice_append_add (a b : Bytes) (i j : Nat) :
    slice (a ++ b) (a.length + i) (a.length + j) = slice b i j := by
  simp only [slice, List.drop_length_add_append, List.length_append, Nat.add_le_add_iff_left,
    Nat.add_sub_add_left]

theorem sliceFrom_append {a : Bytes} (b : Bytes) {m : Nat} (h : a.length ≤ m) :
    sliceFrom (a ++ b) m = sliceFrom b (m - a.length) := by
  rw [← sliceFrom_append_add a b, Nat.add_sub_cancel' h]

theorem slice_append {a : Bytes} (b : Bytes) {lo hi : Nat} (h : a.length ≤ lo) (h2 : lo ≤ hi) :
    slice (a ++ b) lo hi = slice b (lo - a.length) (hi - a.length) := by
  rw [← slice_append_add a b, Nat.add_sub_cancel' h, Nat.add_sub_cancel' (Nat.le_trans h h2)]

theorem sliceFrom_at {pre : Bytes} (post : Bytes) {lo : Nat} (h : pre.length = lo) :
    sliceFrom (pre ++ post) lo = some post := by
  subst h
  rw [← Nat.add_zero pre.length, sliceFrom_append_add, sliceFrom_zero]

theorem slice_prefix {a : Bytes} (b : Bytes) {hi : Nat} (h : a.length = hi) : slice (a ++ b) 0 hi = some a := by
  subst h
  simp [slice]

theorem slice_prefix' {a : Bytes} {hi : Nat} (h : a.length = hi) :
    slice a 0 hi = some a := by
  subst h
  simp [slice]

theorem copyN_append {a : Bytes} (b : Bytes) {n : Nat} (h : a.length = n) : copyN n (a ++ b) = a := by
  subst h
  simp [copyN, zeros]

theorem copyN_exact {a : Bytes} {n : Nat} (h : a.length = n) : copyN n a = a := by
  subst h
  simp [copyN, zeros]

theorem length_beBytes (n v : Nat) : (beBytes n v).length = n := by
  induction n generalizing v with
  | zero => rfl
  | succ n ih => rw [beBytes, List.length_append, ih]; rfl

theorem beNat_append_single (l : Bytes) (x : UInt8) : beNat (l ++ [x]) = beNat l * 256 + x.toNat := by
  simp [beNat, List.foldl_append]

theorem beNat_beBytes (n v : Nat) : beNat (beBytes n v) = v % 256 ^ n := by
  induction n generalizing v with
  | zero => simp [beBytes, beNat, Nat.mod_one]
  | succ n ih =>
    rw [beBytes, beNat_append_single, ih, UInt8.toNat_ofNat', Nat.mod_mod_of_dvd _ (by decide : 256 ∣ 2 ^ 8),
      Nat.pow_succ, Nat.mul_comm (256 ^ n) 256, Nat.mod_mul, Nat.add_comm, Nat.mul_comm 256]

theorem beNat_beBytes_of_lt {n v : Nat} (h : v < 256 ^ n) : beNat (beBytes n v) = v :=
  (beNat_beBytes n v).trans (Nat.mod_eq_of_lt h)

namespace Res
variable {α : Type} {P : α → Prop}

/-- The run did not panic, and a returned value satisfies `P`. -/
def Safe (P : α → Prop) : Res α → Prop
  | .ok a => P a
  | .reject => True
  | .panic => False

namespace Safe

theorem ne_panic {r : Res α} (h : r.Safe P) : r ≠ .panic := by
  rintro rfl; exact h

theorem of_ok {r : Res α} {a : α} (h : r.Safe P) (e : r = .ok a) : P a := by
  subst e; exact h

/-- How a caller goes on from a sub-parser's outcome (`v, err := sub(…); if err != nil { return err }`):
    only a value or an error is left to consider. -/
@[elab_as_elim]
theorem elim {motive : Res α → Prop} {r : Res α} (h : r.Safe P) (ok : ∀ a, P a → motive (.ok a))
    (reject : motive .reject) : motive r :=
  match r, h with
  | .ok a, h => ok a h
  | .reject, _ => reject

theorem mono {Q : α → Prop} {r : Res α} (h : r.Safe P) (hpq : ∀ a, P a → Q a) : r.Safe Q :=
  h.elim hpq trivial

end Safe

theorem safe_ite {c : Prop} [Decidable c] {a b : Res α} (ha : c → a.Safe P) (hb : ¬ c → b.Safe P) :
    (if c then a else b).Safe P := by
  split
  · next hc => exact ha hc
  · next hc => exact hb hc

/-- `if c { return err }; k` -/
theorem safe_ite_reject {c : Prop} [Decidable c] {k : Res α} (h : ¬ c → k.Safe P) :
    (if c then .reject else k).Safe P :=
  safe_ite (fun _ => trivial) h

/-- `if !check(x) { return err }; k` -/
theorem safe_check {b : Bool} {k : Res α} (h : b = true → k.Safe P) :
    (if (!b) = true then .reject else k).Safe P :=
  safe_ite_reject fun hb => h (by simpa using hb)

end Res

theorem parseTxLoop_safe (O : Oracle) (n : Nat) : ∀ data : Bytes, (parseTxLoop O n data).Safe fun _ => True := by
  induction n with
  | zero => intro data; exact Res.safe_ite (fun _ => trivial) fun _ => trivial
  | succ n ih =>
    intro data
    unfold parseTxLoop
    refine Res.safe_ite_reject fun h4 => ?_
    have b4 : 4 ≤ data.length := by omega
    simp only [slice_of_le (Nat.zero_le 4) b4, sliceFrom_of_le b4, List.length_drop]
    generalize beNat _ = size
    refine Res.safe_ite_reject fun hsize => ?_
    have bs : 4 + size ≤ data.length := by omega
    simp only [slice_of_le (Nat.le_add_right 4 size) bs, sliceFrom_of_le bs]
    refine Res.safe_ite_reject fun _ => ?_
    exact (ih (data.drop (4 + size))).elim (fun _ _ => trivial) trivial

theorem parseTransactionsPayload_safe (O : Oracle) (data : Bytes) :
    (parseTransactionsPayload O data).Safe fun _ => True := by
  cases data with
  | nil => trivial
  | cons c t =>
    simp only [parseTransactionsPayload, sliceFrom_cons, sliceFrom_zero]
    exact parseTxLoop_safe O _ _

theorem unmarshalSyncPoints_safe (b : Bytes) : (unmarshalSyncPoints b).Safe fun _ => True := by
  unfold unmarshalSyncPoints
  refine Res.safe_ite_reject fun h4 => ?_
  have b4 : 4 ≤ b.length := by omega
  simp only [slice_of_le (Nat.zero_le 4) b4, sliceFrom_of_le b4]
  refine Res.safe_ite_reject fun _ => ?_
  split
  · trivial
  · refine Res.safe_ite_reject fun _ => ?_
    split <;> trivial

/-- The key offset `67+32*i` is computed in `uint16`.  Below the parser's `count > 1024` guard neither
    operation wraps: `67 + 32 * 1023 = 32803 < 65536`. -/
theorem u16_offset {i : Nat} (h : i < 1024) : u16 (67 + u16 (32 * i)) = 67 + 32 * i := by
  unfold u16; omega

theorem preCommitLoop_safe (O : Oracle) (data : Bytes) (n : Nat) :
    ∀ i, i + n ≤ 1024 → 67 + 32 * (i + n) ≤ data.length →
      (preCommitLoop O data n i).Safe fun keys => keys.length = n ∧ ∀ k ∈ keys, O.checkKey k = true := by
  induction n with
  | zero => intro i _ _; exact ⟨rfl, nofun⟩
  | succ n ih =>
    intro i h1 h2
    unfold preCommitLoop
    simp only [u16_offset (show i < 1024 by omega), sliceFrom_of_le (show 67 + 32 * i ≤ data.length by omega)]
    refine Res.safe_check fun hk => ?_
    exact (ih (i + 1) (by omega) (by omega)).elim
      (fun l ⟨hl, hc⟩ => ⟨congrArg (· + 1) hl, List.forall_mem_cons.2 ⟨hk, hc⟩⟩) trivial

theorem wantLoop_safe (txs : Bytes) (n : Nat) :
    ∀ i, (i + n) * 32 ≤ txs.length → (wantLoop txs n i).Safe fun _ => True := by
  induction n with
  | zero => intro i _; trivial
  | succ n ih =>
    intro i h1
    unfold wantLoop
    simp only [sliceFrom_of_le (show i * 32 ≤ txs.length by omega)]
    exact (ih (i + 1) (by omega)).elim (fun _ _ => trivial) trivial

/-! ### each `case` of the switch, run on a message of at least the type byte -/

def Msg.SameHead (msg m : Msg) : Prop := m.type = msg.type ∧ m.version = msg.version

section
variable (O : Oracle) (msg : Msg) (data : Bytes)

theorem parsePreCommitments_safe :
    (parsePreCommitments O msg data).Safe fun m => msg.SameHead m ∧ ∀ k ∈ m.commitments, O.checkKey k = true := by
  unfold parsePreCommitments
  refine Res.safe_ite_reject fun h80 => ?_
  have b67 : 67 ≤ data.length := by omega
  simp only [slice_of_le (by decide : 1 ≤ 65) (show 65 ≤ data.length by omega),
    slice_of_le (by decide : 65 ≤ 67) b67, sliceFrom_of_le b67, List.length_drop,
    sliceFrom_of_le (show 65 ≤ data.length by omega)]
  generalize beNat _ = count
  refine Res.safe_ite_reject fun hc => ?_
  refine Res.safe_ite_reject fun hl => ?_
  exact (preCommitLoop_safe O data count 0 (by omega) (by omega)).elim (fun _ h => ⟨⟨rfl, rfl⟩, h.2⟩) trivial

theorem parseGraph_safe : (parseGraph msg data).Safe msg.SameHead := by
  unfold parseGraph
  refine Res.safe_ite_reject fun h71 => ?_
  simp only [sliceFrom_of_le (show 1 ≤ data.length by omega), sliceFrom_of_le (show 65 ≤ data.length by omega)]
  exact (unmarshalSyncPoints_safe (data.drop 65)).elim (fun _ _ => ⟨rfl, rfl⟩) trivial

theorem parsePing_safe : (parsePing msg data).Safe msg.SameHead :=
  Res.safe_ite_reject fun _ => ⟨rfl, rfl⟩

theorem parseAuthentication_safe : (parseAuthentication msg data).Safe msg.SameHead := by
  unfold parseAuthentication authenticationMessageSize
  refine Res.safe_ite_reject fun hl => ?_
  simp only [sliceFrom_of_le (show 1 ≤ data.length by omega)]
  exact ⟨rfl, rfl⟩

theorem parseSnapshotConfirm_safe : (parseSnapshotConfirm msg data).Safe msg.SameHead := by
  unfold parseSnapshotConfirm
  refine Res.safe_ite_reject fun hl => ?_
  simp only [sliceFrom_of_le (show 1 ≤ data.length by omega)]
  exact ⟨rfl, rfl⟩

theorem parseTransactionRequest_safe : (parseTransactionRequest msg data).Safe msg.SameHead := by
  unfold parseTransactionRequest
  refine Res.safe_ite_reject fun hl => ?_
  simp only [sliceFrom_of_le (show 1 ≤ data.length by omega)]
  exact ⟨rfl, rfl⟩

theorem parseTransaction_safe (h : 1 ≤ data.length) : (parseTransaction O msg data).Safe msg.SameHead := by
  unfold parseTransaction
  simp only [sliceFrom_of_le h]
  exact Res.safe_ite (fun _ => ⟨rfl, rfl⟩) fun _ => trivial

theorem parseBundle_safe (h : 1 ≤ data.length) : (parseBundle O msg data).Safe msg.SameHead := by
  unfold parseBundle
  simp only [sliceFrom_of_le h]
  exact (parseTransactionsPayload_safe O (data.drop 1)).elim (fun _ _ => ⟨rfl, rfl⟩) trivial

theorem parseAnnouncement_safe (h : 1 ≤ data.length) :
    (parseAnnouncement O msg data).Safe fun m => msg.SameHead m ∧ O.checkKey m.commitment = true := by
  unfold parseAnnouncement
  simp only [sliceFrom_of_le h, List.length_drop]
  refine Res.safe_ite_reject fun h99 => ?_
  simp only [slice_of_le (by decide : 1 ≤ 65) (show 65 ≤ data.length by omega),
    sliceFrom_of_le (show 65 ≤ data.length by omega), sliceFrom_of_le (show 97 ≤ data.length by omega)]
  refine Res.safe_check fun hk => ?_
  split
  · trivial
  · exact ⟨⟨rfl, rfl⟩, hk⟩

theorem parseCommitment_safe (h : 1 ≤ data.length) :
    (parseCommitment O msg data).Safe fun m => msg.SameHead m ∧ O.checkKey m.commitment = true := by
  unfold parseCommitment
  simp only [sliceFrom_of_le h, List.length_drop]
  refine Res.safe_ite_reject fun h128 => ?_
  simp only [slice_of_le (by decide : 1 ≤ 65) (show 65 ≤ data.length by omega),
    sliceFrom_of_le (show 65 ≤ data.length by omega), sliceFrom_of_le (show 97 ≤ data.length by omega),
    sliceFrom_of_le (show 129 ≤ data.length by omega)]
  refine Res.safe_check fun hk => ?_
  generalize data.drop 129 = txs
  refine Res.safe_ite (fun _ => Res.safe_ite_reject fun hm => ?_) fun _ => ⟨⟨rfl, rfl⟩, hk⟩
  exact (wantLoop_safe txs (txs.length / 32) 0 (by omega)).elim (fun _ _ => ⟨⟨rfl, rfl⟩, hk⟩) trivial

theorem parseFullChallenge_safe (h : 1 ≤ data.length) :
    (parseFullChallenge O msg data).Safe fun m =>
      msg.SameHead m ∧ O.checkKey m.commitment = true ∧ O.checkKey m.challenge = true := by
  unfold parseFullChallenge
  simp only [sliceFrom_of_le h, List.length_drop]
  refine Res.safe_ite_reject fun h256 => ?_
  have b5 : 5 ≤ data.length := by omega
  simp only [slice_of_le (by decide : 1 ≤ 5) b5, sliceFrom_of_le b5, List.length_drop]
  generalize beNat _ = size
  refine Res.safe_ite_reject fun hsize => ?_
  have bs : 5 + size ≤ data.length := by omega
  simp only [slice_of_le (Nat.le_add_right 5 size) bs]
  split
  · trivial
  split
  · trivial
  simp only [sliceFrom_of_le bs, List.length_drop]
  refine Res.safe_ite_reject fun h65 => ?_
  have b64 : 5 + size + 64 ≤ data.length := by omega
  simp only [slice_of_le (Nat.le_add_right (5 + size) 32) (show 5 + size + 32 ≤ data.length by omega)]
  refine Res.safe_check fun hk1 => ?_
  simp only [slice_of_le (Nat.add_le_add_left (by decide : 32 ≤ 64) (5 + size)) b64]
  refine Res.safe_check fun hk2 => ?_
  simp only [sliceFrom_of_le b64]
  exact (parseTransactionsPayload_safe O (data.drop (5 + size + 64))).elim (fun _ _ => ⟨⟨rfl, rfl⟩, hk1, hk2⟩) trivial

theorem parseTransactionChallenge_safe (h : 1 ≤ data.length) :
    (parseTransactionChallenge O msg data).Safe msg.SameHead := by
  unfold parseTransactionChallenge
  simp only [sliceFrom_of_le h, List.length_drop]
  refine Res.safe_ite_reject fun h105 => ?_
  have b105 : 105 ≤ data.length := by omega
  simp only [sliceFrom_of_le (show 33 ≤ data.length by omega), slice_of_le (by decide : 97 ≤ 105) b105,
    sliceFrom_of_le b105]
  exact (parseTransactionsPayload_safe O (data.drop 105)).elim (fun _ _ => ⟨rfl, rfl⟩) trivial

theorem parseResponse_safe (h : 1 ≤ data.length) : (parseResponse msg data).Safe msg.SameHead := by
  unfold parseResponse
  simp only [sliceFrom_of_le h, List.length_drop]
  refine Res.safe_ite_reject fun hl => ?_
  simp only [sliceFrom_of_le (show 33 ≤ data.length by omega)]
  exact ⟨rfl, rfl⟩

theorem parseFinalization_safe (h : 1 ≤ data.length) : (parseFinalization O msg data).Safe msg.SameHead := by
  unfold parseFinalization
  simp only [sliceFrom_of_le h]
  split
  · trivial
  · exact ⟨rfl, rfl⟩

theorem parseRelay_safe : (parseRelay msg data).Safe msg.SameHead :=
  Res.safe_ite_reject fun _ => ⟨rfl, rfl⟩

theorem parseConsumers_safe (h : 1 ≤ data.length) : (parseConsumers msg data).Safe msg.SameHead := by
  unfold parseConsumers
  simp only [sliceFrom_of_le h]
  exact ⟨rfl, rfl⟩

end

theorem wantLoop_flatten (ws : List Bytes) (h : ∀ w ∈ ws, w.length = 32) :
    ∀ (pre : Bytes) (i : Nat), pre.length = i * 32 → wantLoop (pre ++ ws.flatten) ws.length i = .ok ws := by
  induction ws with
  | nil => intro _ _ _; rfl
  | cons w t ih =>
    intro pre i hp
    obtain ⟨hw, ht⟩ := List.forall_mem_cons.1 h
    have hrec := ih ht (pre ++ w) (i + 1) (by rw [List.length_append, hp, hw, Nat.succ_mul])
    rw [List.append_assoc] at hrec
    rw [List.flatten_cons, List.length_cons, wantLoop]
    simp only [sliceFrom_at _ hp, hrec, copyN_append _ hw]

theorem preCommitLoop_flatten (O : Oracle) (ws : List Bytes) (h : ∀ w ∈ ws, w.length = 32)
    (hk : ∀ w ∈ ws, O.checkKey w = true) :
    ∀ (pre : Bytes) (i : Nat), pre.length = 67 + 32 * i → i + ws.length ≤ 1024 →
      preCommitLoop O (pre ++ ws.flatten) ws.length i = .ok ws := by
  induction ws with
  | nil => intro _ _ _ _; rfl
  | cons w t ih =>
    intro pre i hp hn
    obtain ⟨hw, ht⟩ := List.forall_mem_cons.1 h
    obtain ⟨hkw, hkt⟩ := List.forall_mem_cons.1 hk
    rw [List.length_cons] at hn
    have hrec := ih ht hkt (pre ++ w) (i + 1) (by rw [List.length_append, hp, hw, Nat.mul_succ, Nat.add_assoc])
      (by omega)
    rw [List.append_assoc] at hrec
    rw [List.flatten_cons, List.length_cons, preCommitLoop]
    simp only [u16_offset (show i < 1024 by omega), sliceFrom_at _ hp, hrec, copyN_append _ hw, hkw, Bool.not_true,
      Bool.false_eq_true, if_false]

theorem parseTxLoop_flatten (O : Oracle) (txs : List Bytes) (hk : ∀ t ∈ txs, O.tx t = true)
    (hl : ∀ t ∈ txs, t.length < 2 ^ 32) :
    parseTxLoop O txs.length ((txs.map (fun pl => beBytes 4 pl.length ++ pl)).flatten) = .ok txs := by
  induction txs with
  | nil => rfl
  | cons t r ih =>
    obtain ⟨hkt, hkr⟩ := List.forall_mem_cons.1 hk
    obtain ⟨hlt, hlr⟩ := List.forall_mem_cons.1 hl
    have hrec := ih hkr hlr
    have hb : (beBytes 4 t.length).length = 4 := length_beBytes _ _
    have hsz : beNat (beBytes 4 t.length) = t.length := beNat_beBytes_of_lt hlt
    rw [List.map_cons, List.flatten_cons, List.length_cons, List.append_assoc, parseTxLoop]
    generalize (r.map fun pl => beBytes 4 pl.length ++ pl).flatten = rest at hrec ⊢
    have h4 : ¬ (beBytes 4 t.length ++ (t ++ rest)).length < 4 := by rw [List.length_append, hb]; omega
    have hlen : ¬ (t ++ rest).length < t.length := by rw [List.length_append]; omega
    simp only [h4, slice_prefix _ hb, hsz, slice_add_left, sliceFrom_add, sliceFrom_at _ hb, Option.bind_some, hlen,
      slice_prefix, sliceFrom_at, hkt, hrec, Bool.not_true, Bool.false_eq_true, if_false]

theorem readN_append {a : Bytes} (b : Bytes) {n : Nat} (h : a.length = n) : readN n (a ++ b) = some (a, b) := by
  subst h
  simp [readN]

theorem readPoints_flatten (ps : List SyncPoint) (extra : Bytes)
    (h : ∀ p ∈ ps, p.nodeId.length = 32 ∧ p.hash.length = 32 ∧ p.number < 2 ^ 64) :
    readPoints ps.length ((ps.map encodePoint).flatten ++ extra) = some ps := by
  induction ps with
  | nil => rfl
  | cons p r ih =>
    obtain ⟨⟨h1, h2, h3⟩, hr⟩ := List.forall_mem_cons.1 h
    rw [List.map_cons, List.flatten_cons, List.length_cons, encodePoint, readPoints]
    simp only [List.append_assoc, readN_append _ h1, readN_append _ (length_beBytes 8 p.number), readN_append _ h2,
      ih hr, beNat_beBytes_of_lt (n := 8) h3]

end Mixin.PeerMsg
