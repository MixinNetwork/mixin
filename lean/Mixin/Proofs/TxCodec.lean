import Mixin.Model.TxCodec
import Mixin.Proofs.Basics
/-! Helper lemmas for C06: per-field read-after-write, list induction, masks. -/
namespace Mixin.TxCodec
open Mixin Mixin.Bytes

/-- The hypothesis on `f` may use that the remainder after an element is non-empty whenever
    `rest` is: `readInteger` at the very end of the input fails, so some element readers need it. -/
theorem readMany_flatMap {α : Type} {f : Bytes → Option (α × Bytes)} {w : α → Bytes}
    (xs : List α) (rest : Bytes)
    (h : ∀ x ∈ xs, ∀ r, (rest ≠ [] → r ≠ []) → f (w x ++ r) = some (x, r)) :
    readMany f xs.length (xs.flatMap w ++ rest) = some (xs, rest) := by
  induction xs with
  | nil => rfl
  | cons a t ih =>
    rw [List.length_cons, readMany, List.flatMap_cons, List.append_assoc,
      h a List.mem_cons_self _ (List.append_ne_nil_of_right_ne_nil _)]
    simp only
    rw [ih fun x hx => h x (List.mem_cons_of_mem _ hx)]

theorem readMagic_magic (rest : Bytes) : readMagic (magic ++ rest) = some (true, rest) := by
  rw [readMagic, readN_append_pos (n := 2) (a := magic) rfl (by decide)]
  rfl

theorem readMagic_null (rest : Bytes) : readMagic (null ++ rest) = some (false, rest) := by
  rw [readMagic, readN_append_pos (n := 2) (a := null) rfl (by decide)]
  rfl

/-- turn a Bool guard into arithmetic facts (first remove `decide`, then unfold the constants) -/
macro "unbool" " at " h:ident : tactic =>
  `(tactic| (simp only [Bool.and_eq_true, decide_eq_true_eq, beq_iff_eq, List.all_eq_true,
               Option.all_some, Option.all_none] at $h:ident;
             try simp only [maxEncodingInt, inputIndexLimit, sliceCountLimit, extraCapacity] at $h:ident))

theorem readOptDeposit_enc {d : Option Deposit} {rest : Bytes} (hne : rest ≠ [])
    (hrep : d.all repDeposit = true) (hg : d.all guardsDeposit = true) :
    readOptDeposit (encOptDeposit d ++ rest) = some (d, rest) := by
  cases d with
  | none => simp only [readOptDeposit, encOptDeposit, readMagic_null, Option.bind_eq_bind,
      Option.bind_some, Bool.false_eq_true, if_false]
  | some d =>
    simp only [Option.all_some, repDeposit, guardsDeposit] at hrep hg
    unbool at hrep
    unbool at hg
    obtain ⟨hc, hi⟩ := hrep
    obtain ⟨⟨hak, hth⟩, hamt⟩ := hg
    simp only [readOptDeposit, encOptDeposit, encDeposit, readDeposit, List.append_assoc,
      Option.bind_eq_bind, Option.bind_some, if_true, readMagic_magic,
      readN_append_pos hc (by decide), readBytes_write (Nat.lt_succ_of_le hak),
      readBytes_write (Nat.lt_succ_of_le hth), readU64_write hi,
      readInteger_write (Nat.lt_succ_of_le hamt) hne]

theorem readOptMint_enc {m : Option Mint} {rest : Bytes} (hne : rest ≠ [])
    (hrep : m.all repMint = true) (hg : m.all guardsMint = true) :
    readOptMint (encOptMint m ++ rest) = some (m, rest) := by
  cases m with
  | none => simp only [readOptMint, encOptMint, readMagic_null, Option.bind_eq_bind,
      Option.bind_some, Bool.false_eq_true, if_false]
  | some m =>
    simp only [Option.all_some, repMint, guardsMint] at hrep hg
    unbool at hrep
    unbool at hg
    simp only [readOptMint, encOptMint, encMint, readMint, List.append_assoc,
      Option.bind_eq_bind, Option.bind_some, if_true, readMagic_magic,
      readBytes_write (Nat.lt_succ_of_le hg.1), readU64_write hrep,
      readInteger_write (Nat.lt_succ_of_le hg.2) hne]

theorem encOptMint_ne_nil (m : Option Mint) (rest : Bytes) : encOptMint m ++ rest ≠ [] := by
  cases m <;> simp [encOptMint, encMint, null, magic]

theorem readInput_enc {i : Input} {rest : Bytes} (hne : rest ≠ [])
    (hrep : repInput i = true) (hg : guardsInput i = true) :
    readInput (encInput i ++ rest) = some (i, rest) := by
  simp only [repInput, guardsInput] at hrep hg
  unbool at hrep
  unbool at hg
  obtain ⟨⟨hh, hrd⟩, hrm⟩ := hrep
  obtain ⟨⟨⟨hi, hgen⟩, hgd⟩, hgm⟩ := hg
  simp only [readInput, encInput, List.append_assoc, Option.bind_eq_bind, Option.bind_some,
    readN_append_pos hh (by decide), readU16_write (Nat.lt_of_le_of_lt hi (by decide)),
    show ¬ i.index > inputIndexLimit from Nat.not_lt.mpr hi, if_false,
    readBytes_write (Nat.lt_succ_of_le hgen),
    readOptDeposit_enc (encOptMint_ne_nil _ _) hrd hgd, readOptMint_enc hne hrm hgm]

theorem readOptWithdrawal_enc {w : Option Withdrawal} (rest : Bytes)
    (hg : w.all guardsWithdrawal = true) :
    readOptWithdrawal (encOptWithdrawal w ++ rest) = some (w, rest) := by
  cases w with
  | none => simp only [readOptWithdrawal, encOptWithdrawal, readMagic_null, Option.bind_eq_bind,
      Option.bind_some, Bool.false_eq_true, if_false]
  | some w =>
    simp only [Option.all_some, guardsWithdrawal] at hg
    unbool at hg
    simp only [readOptWithdrawal, encOptWithdrawal, List.append_assoc,
      Option.bind_eq_bind, Option.bind_some, if_true, readMagic_magic,
      readBytes_write (Nat.lt_succ_of_le hg.1), readBytes_write (Nat.lt_succ_of_le hg.2)]

theorem readOutputType_enc (t : UInt8) (rest : Bytes) :
    readOutputType ([0x00, t] ++ rest) = some (t, rest) := by
  rw [readOutputType, readN_append_pos (n := 2) (a := [0x00, t]) rfl (by decide)]
  rfl

theorem readKeys_enc (keys : List Bytes) (rest : Bytes) (h : ∀ k ∈ keys, k.length = 32) :
    readMany (readN 32) keys.length (keys.flatten ++ rest) = some (keys, rest) := by
  have := readMany_flatMap (f := readN 32) (w := id) keys rest
    fun k hk r _ => readN_append_pos (h k hk) (by decide)
  rwa [List.flatMap_id] at this

theorem writeU16_ne_nil (v : Nat) (rest : Bytes) : writeU16 v ++ rest ≠ [] := by
  simp [writeU16, be, beAux]

theorem readOutputL_enc {lim : Nat} {o : Output} (rest : Bytes)
    (hrep : repOutput o = true) (hg : guardsOutput o = true) (hk : o.keys.length ≤ lim) :
    readOutputL lim (encOutput o ++ rest) = some (o, rest) := by
  simp only [repOutput, guardsOutput] at hrep hg
  unbool at hrep
  unbool at hg
  obtain ⟨hkeys, hmask⟩ := hrep
  obtain ⟨⟨⟨hamt, hkl⟩, hscr⟩, hw⟩ := hg
  simp only [readOutputL, encOutput, List.append_assoc, Option.bind_eq_bind, Option.bind_some,
    readOutputType_enc, readInteger_write (Nat.lt_succ_of_le hamt) (writeU16_ne_nil _ _),
    readU16_write (Nat.lt_succ_of_le hkl), Nat.not_lt.mpr hk, if_false,
    readKeys_enc _ _ hkeys, readN_append_pos hmask (by decide),
    readBytes_write (Nat.lt_succ_of_le hscr), readOptWithdrawal_enc _ hw]

theorem sortedKeysFrom_iff (prev : Option Nat) (l : SigMap) :
    sortedKeysFrom prev l = true ↔
      (∀ p, prev = some p → ∀ e ∈ l, p < e.1) ∧ l.Pairwise (fun a b => a.1 < b.1) := by
  induction l generalizing prev with
  | nil => simp [sortedKeysFrom]
  | cons e r ih =>
    obtain ⟨k, v⟩ := e
    simp only [sortedKeysFrom, Bool.and_eq_true, ih, List.pairwise_cons, List.mem_cons]
    constructor
    · rintro ⟨hp, hk, hr⟩
      refine ⟨?_, fun e he => hk k rfl e he, hr⟩
      intro p hp' e he
      subst hp'
      simp only [decide_eq_true_eq] at hp
      rcases he with rfl | he
      · exact hp
      · exact Nat.lt_trans hp (hk k rfl e he)
    · rintro ⟨hp, hk, hr⟩
      refine ⟨?_, fun p hp' e he => by cases hp'; exact hk e he, hr⟩
      cases prev with
      | none => rfl
      | some p => simpa using hp p rfl (k, v) (Or.inl rfl)

theorem sigInsert_append (m : SigMap) (k : Nat) (v : Bytes) (h : ∀ e ∈ m, e.1 < k) :
    sigInsert k v m = m ++ [(k, v)] := by
  induction m with
  | nil => rfl
  | cons e r ih =>
    obtain ⟨k', v'⟩ := e
    have hk : k' < k := h (k', v') (List.mem_cons_self)
    simp only [sigInsert, List.cons_append]
    rw [if_neg (Nat.lt_asymm hk), if_neg (Nat.ne_of_gt hk), ih fun e he => h e (List.mem_cons_of_mem _ he)]

theorem readSigEntries_enc (l : SigMap) (acc : SigMap) (rest : Bytes)
    (hacc : ∀ a ∈ acc, ∀ e ∈ l, a.1 < e.1)
    (hs : l.Pairwise (fun a b => a.1 < b.1))
    (hv : ∀ e ∈ l, e.1 < 65536 ∧ e.2.length = 64) :
    readSigEntries l.length acc (l.flatMap encSigEntry ++ rest) = some (acc ++ l, rest) := by
  induction l generalizing acc with
  | nil => simp [readSigEntries]
  | cons e r ih =>
    obtain ⟨k, v⟩ := e
    have ⟨hk, hl⟩ := hv (k, v) List.mem_cons_self
    rw [List.pairwise_cons] at hs
    simp only [List.length_cons, readSigEntries, List.flatMap_cons, encSigEntry, List.append_assoc,
      readU16_write hk, readN_append_pos hl (by decide),
      sigInsert_append _ _ _ fun a ha => hacc a ha (k, v) List.mem_cons_self]
    rw [ih (acc ++ [(k, v)]) ?_ hs.2 fun e he => hv e (List.mem_cons_of_mem _ he),
      List.append_assoc, List.singleton_append]
    intro a ha e he
    rcases List.mem_append.mp ha with ha | ha
    · exact hacc a ha e (List.mem_cons_of_mem _ he)
    · cases List.mem_singleton.mp ha
      exact hs.1 e he

theorem readSignatures_enc {m : SigMap} (rest : Bytes) (hrep : repSigMap m = true)
    (hl : m.length ≤ 65535) :
    readSignatures (encSigs m ++ rest) = some (m, rest) := by
  simp only [repSigMap, Bool.and_eq_true, sortedKeysFrom_iff] at hrep
  obtain ⟨⟨_, hs⟩, hv⟩ := hrep
  unbool at hv
  simp only [readSignatures, encSigs, List.append_assoc, Option.bind_eq_bind, Option.bind_some,
    readU16_write (Nat.lt_succ_of_le hl), readSigEntries_enc m [] _ nofun hs hv,
    List.nil_append, ne_eq, not_true_eq_false, if_false]

theorem validSignersFrom_eq (prev : Option Nat) (l : List Nat) :
    validSignersFrom prev l =
      (sortedKeysFrom prev (l.map (·, ([] : Bytes))) && l.all (· ≤ maxEncodingInt)) := by
  induction l generalizing prev with
  | nil => rfl
  | cons s r ih =>
    simp only [validSignersFrom, ih, List.map_cons, sortedKeysFrom, List.all_cons]
    ac_rfl

theorem validSigners_iff (s : List Nat) :
    validSigners s = true ↔ s.length ≤ 65535 ∧ s.Pairwise (· < ·) ∧ ∀ x ∈ s, x ≤ 65535 := by
  rw [validSigners, validSignersFrom_eq, Bool.and_eq_true, Bool.and_eq_true, decide_eq_true_eq,
    sortedKeysFrom_iff, List.pairwise_map, List.all_eq_true]
  constructor
  · rintro ⟨hlen, ⟨_, hsorted⟩, hbound⟩
    exact ⟨hlen, hsorted, fun x hx => of_decide_eq_true (hbound x hx)⟩
  · rintro ⟨hlen, hsorted, hbound⟩
    exact ⟨hlen, ⟨nofun, hsorted⟩, fun x hx => decide_eq_true (hbound x hx)⟩

theorem sorted_ext {l1 l2 : List Nat} (h1 : l1.Pairwise (· < ·)) (h2 : l2.Pairwise (· < ·))
    (h : ∀ x, x ∈ l1 ↔ x ∈ l2) : l1 = l2 :=
  ((List.perm_ext_iff_of_nodup (h1.imp Nat.ne_of_lt) (h2.imp Nat.ne_of_lt)).mpr h).eq_of_pairwise
    (fun _ _ _ _ hab hba => absurd hab (Nat.lt_asymm hba)) h1 h2

def bitAt (bytes : Bytes) (k : Nat) : Bool :=
  match bytes[k / 8]? with
  | some c => c.toNat.testBit (k % 8)
  | none => false

theorem mem_byteBits {i : Nat} {c : UInt8} {k : Nat} :
    k ∈ byteBits i c ↔ k / 8 = i ∧ c.toNat.testBit (k % 8) = true := by
  simp only [byteBits, List.mem_filterMap, List.mem_range, Option.ite_none_right_eq_some,
    Option.some.injEq]
  constructor
  · rintro ⟨j, hj, hb, rfl⟩
    rw [Nat.mul_comm, Nat.mul_add_div (by decide), Nat.mul_add_mod, Nat.div_eq_of_lt hj,
      Nat.mod_eq_of_lt hj]
    exact ⟨rfl, hb⟩
  · rintro ⟨rfl, hb⟩
    exact ⟨k % 8, Nat.mod_lt _ (by decide), hb, Nat.div_add_mod' k 8⟩

theorem byteBits_sorted (i : Nat) (c : UInt8) : (byteBits i c).Pairwise (· < ·) := by
  unfold byteBits
  apply List.Pairwise.filterMap _ _ List.pairwise_lt_range
  intro a a' haa b hb b' hb'
  rw [Option.ite_none_right_eq_some, Option.some.injEq] at hb hb'
  exact hb.2 ▸ hb'.2 ▸ Nat.add_lt_add_left haa _

/-- Stated with the quotient `k / 8` and the remainder `k % 8` as they stand, so that the
    induction only shifts the byte index `j`. -/
theorem mem_maskSignersFrom {i : Nat} {bytes : Bytes} {k : Nat} :
    k ∈ maskSignersFrom i bytes ↔
      ∃ j c, bytes[j]? = some c ∧ k / 8 = i + j ∧ c.toNat.testBit (k % 8) = true := by
  induction bytes generalizing i with
  | nil => simp [maskSignersFrom]
  | cons c r ih =>
    rw [maskSignersFrom, List.mem_append, mem_byteBits, ih]
    constructor
    · rintro (⟨h1, h2⟩ | ⟨j, c', h1, h2, h3⟩)
      · exact ⟨0, c, rfl, h1, h2⟩
      · exact ⟨j + 1, c', h1, by rw [h2, Nat.add_assoc, Nat.add_comm 1], h3⟩
    · rintro ⟨j, c', h1, h2, h3⟩
      cases j with
      | zero => cases h1; exact Or.inl ⟨h2, h3⟩
      | succ j => exact Or.inr ⟨j, c', h1, by rw [h2, Nat.add_assoc, Nat.add_comm 1], h3⟩

theorem mem_maskSigners {bytes : Bytes} {k : Nat} :
    k ∈ maskSignersFrom 0 bytes ↔ bitAt bytes k = true := by
  rw [mem_maskSignersFrom, bitAt]
  constructor
  · rintro ⟨j, c, h1, h2, h3⟩
    rw [h2, Nat.zero_add, h1]
    exact h3
  · intro h
    split at h
    · rename_i c hc
      exact ⟨_, c, hc, (Nat.zero_add _).symm, h⟩
    · cases h

theorem maskSignersFrom_sorted (i : Nat) (bytes : Bytes) :
    (maskSignersFrom i bytes).Pairwise (· < ·) := by
  induction bytes generalizing i with
  | nil => exact List.Pairwise.nil
  | cons c r ih =>
    rw [maskSignersFrom, List.pairwise_append]
    refine ⟨byteBits_sorted i c, ih (i + 1), fun a ha b hb => ?_⟩
    obtain ⟨ha, _⟩ := mem_byteBits.mp ha
    obtain ⟨j, _, _, hb, _⟩ := mem_maskSignersFrom.mp hb
    apply Nat.lt_of_div_lt_div (c := 8)
    rw [ha, hb, Nat.add_assoc]
    exact Nat.lt_add_of_pos_right (Nat.add_comm j 1 ▸ Nat.succ_pos j)

theorem shift_toNat (a : Nat) (h : a < 8) : ((1 : UInt8) <<< UInt8.ofNat a).toNat = 2 ^ a := by
  have key : ∀ a : Fin 8, ((1 : UInt8) <<< UInt8.ofNat a.val).toNat = 2 ^ a.val := by decide
  exact key ⟨a, h⟩

theorem testBit_xorBit (c : UInt8) (a b : Nat) (ha : a < 8) :
    (c ^^^ ((1 : UInt8) <<< UInt8.ofNat a)).toNat.testBit b = (c.toNat.testBit b ^^ decide (a = b)) := by
  rw [UInt8.toNat_xor, Nat.testBit_xor, shift_toNat a ha, Nat.testBit_two_pow]

theorem bitAt_xorBit (bytes : Bytes) (m k : Nat) (hm : m / 8 < bytes.length) :
    bitAt (xorBit bytes m) k = (bitAt bytes k ^^ decide (m = k)) := by
  unfold bitAt xorBit
  by_cases h : m / 8 = k / 8
  · rw [h, List.getElem?_modify_eq, List.getElem?_eq_getElem (h ▸ hm)]
    show ((_ : UInt8) ^^^ _).toNat.testBit (k % 8) = _
    rw [testBit_xorBit _ _ _ (Nat.mod_lt _ (by decide))]
    congr 1
    exact decide_eq_decide.mpr
      ⟨fun e => by rw [← Nat.div_add_mod m 8, ← Nat.div_add_mod k 8, h, e], fun e => e ▸ rfl⟩
  · rw [List.getElem?_modify_ne _ _ h, decide_eq_false fun e => h (by rw [e]), Bool.xor_false]

theorem length_foldl_xorBit (l : List Nat) (init : Bytes) :
    (l.foldl xorBit init).length = init.length := by
  induction l generalizing init with
  | nil => rfl
  | cons a r ih => rw [List.foldl_cons, ih]; simp [xorBit]

theorem bitAt_foldl_xorBit (l : List Nat) (init : Bytes) (k : Nat)
    (hl : ∀ m ∈ l, m / 8 < init.length) (hnd : l.Pairwise (· < ·)) :
    bitAt (l.foldl xorBit init) k = (bitAt init k ^^ decide (k ∈ l)) := by
  induction l generalizing init with
  | nil => simp
  | cons a r ih =>
    rw [List.pairwise_cons] at hnd
    rw [List.foldl_cons, ih (xorBit init a) (by
      intro m hm
      simp only [xorBit, List.length_modify]
      exact hl m (List.mem_cons_of_mem _ hm)) hnd.2]
    rw [bitAt_xorBit _ _ _ (hl a List.mem_cons_self)]
    by_cases hka : a = k
    · subst hka
      have : a ∉ r := fun h => Nat.lt_irrefl _ (hnd.1 a h)
      simp [this]
    · have : ¬ k = a := fun e => hka e.symm
      simp [hka, this]

theorem bitAt_replicate_zero (n k : Nat) : bitAt (List.replicate n (0 : UInt8)) k = false := by
  unfold bitAt
  rw [List.getElem?_replicate]
  by_cases h : k / 8 < n <;> simp [h]

theorem lastOr0_eq_getLast : ∀ {l : List Nat} (h : l ≠ []), lastOr0 l = l.getLast h
  | [_], _ => rfl
  | _ :: b :: u, _ => lastOr0_eq_getLast (List.cons_ne_nil b u)

theorem lastOr0_mem {l : List Nat} (h : l ≠ []) : lastOr0 l ∈ l :=
  lastOr0_eq_getLast h ▸ List.getLast_mem h

theorem le_lastOr0 {l : List Nat} (h : l.Pairwise (· < ·)) (x : Nat) (hx : x ∈ l) : x ≤ lastOr0 l := by
  have hne := List.ne_nil_of_mem hx
  rw [lastOr0_eq_getLast hne]
  exact (pairwise_getLast h (List.getLast?_eq_some_getLast hne) x hx).elim Nat.le_of_eq Nat.le_of_lt

theorem maskSigners_maskBytes (s : List Nat) (hs : s.Pairwise (· < ·)) :
    maskSignersFrom 0 (maskBytes s (lastOr0 s / 8 + 1)) = s := by
  apply sorted_ext (maskSignersFrom_sorted _ _) hs
  intro k
  have hbound : ∀ m ∈ s, m / 8 < (List.replicate (lastOr0 s / 8 + 1) (0 : UInt8)).length := by
    intro m hm
    rw [List.length_replicate]
    exact Nat.lt_succ_of_le (Nat.div_le_div_right (le_lastOr0 hs m hm))
  rw [mem_maskSigners, maskBytes, bitAt_foldl_xorBit _ _ _ hbound hs, bitAt_replicate_zero,
    Bool.false_xor, decide_eq_true_eq]

theorem validSigners_of_guardsAgg {a : AggSig} (hg : guardsAgg a = true) :
    validSigners a.signers = true := by
  rcases Bool.or_eq_true_iff.mp hg with h | h
  · rw [List.isEmpty_iff.mp h]
    rfl
  · exact h

/-- The two spellings `EncodeAggregatedSignature` produces; the empty signer list is the
    ordinary mask of no bytes. -/
theorem encMask_ordinary_or_sparse {s : List Nat} (hs : s.Pairwise (· < ·))
    (hb : ∀ x ∈ s, x ≤ 65535) :
    (∃ mask, mask.length < 65536 ∧ maskSignersFrom 0 mask = s ∧
        encMask s = 0x00 :: writeBytes mask) ∨
      encMask s = 0x01 :: (writeU16 s.length ++ s.flatMap writeU16) := by
  unfold encMask
  by_cases hemp : s = []
  · subst hemp
    exact Or.inl ⟨[], by decide, rfl, rfl⟩
  · rw [if_neg (by rwa [List.isEmpty_iff])]
    by_cases hsp : useSparse s = true
    · rw [if_pos hsp]
      exact Or.inr rfl
    · rw [if_neg hsp]
      have hlen : (maskBytes s (lastOr0 s / 8 + 1)).length = lastOr0 s / 8 + 1 := by
        rw [maskBytes, length_foldl_xorBit, List.length_replicate]
      refine Or.inl ⟨_, ?_, maskSigners_maskBytes s hs, by rw [writeBytes, hlen]; rfl⟩
      rw [hlen]
      exact Nat.lt_of_le_of_lt
        (Nat.succ_le_succ (Nat.div_le_div_right (hb _ (lastOr0_mem hemp)))) (by decide)

theorem readAgg_enc (a : AggSig) (rest : Bytes) (hsig : a.sig.length = 64)
    (hg : guardsAgg a = true) :
    readAgg (a.sig ++ (encMask a.signers ++ rest)) = some (a, rest) := by
  have hv := validSigners_of_guardsAgg hg
  obtain ⟨hlen, hsorted, hbound⟩ := (validSigners_iff _).mp hv
  rcases encMask_ordinary_or_sparse hsorted hbound with ⟨mask, hml, hms, he⟩ | he
  · simp only [readAgg, he, List.cons_append, Option.bind_eq_bind,
      Option.bind_some, readN_append_pos hsig (by decide), readByte,
      (by decide : ¬ (0x00 : UInt8) = 0x01), if_false, if_true, readBytes_write hml, hms, hv]
  · simp only [readAgg, he, List.append_assoc, List.cons_append, Option.bind_eq_bind,
      Option.bind_some, readN_append_pos hsig (by decide), readByte, if_true,
      readU16_write (Nat.lt_succ_of_le hlen), hv,
      readMany_flatMap a.signers rest fun x hx r _ => readU16_write (Nat.lt_succ_of_le (hbound x hx)) r]

/-- What `readAuth` needs of the encoder's input, and guarantees of its own result. -/
def AuthOk (agg : Option AggSig) (sigs : List SigMap) : Prop :=
  repAuth agg sigs = true ∧ guardsAuth agg sigs = true ∧
    sigs.length ≤ sliceCountLimit ∧ (agg.isNone || sigs.isEmpty) = true

/-- The same for `readPayload`. -/
def PayloadOk (p : Payload) : Prop :=
  repPayload p = true ∧ guardsPayload p = true ∧
    p.references.length ≤ sliceCountLimit ∧ ∀ o ∈ p.outputs, o.keys.length ≤ sliceCountLimit

instance (agg : Option AggSig) (sigs : List SigMap) : Decidable (AuthOk agg sigs) := by
  unfold AuthOk; exact inferInstance

instance (p : Payload) : Decidable (PayloadOk p) := by unfold PayloadOk; exact inferInstance

theorem readAuth_enc (agg : Option AggSig) (sigs : List SigMap) (rest : Bytes)
    (h : AuthOk agg sigs) : readAuth (encAuth agg sigs ++ rest) = some ((agg, sigs), rest) := by
  obtain ⟨hrep, hg, hc1, hc2⟩ := h
  simp only [repAuth, Bool.and_eq_true] at hrep
  obtain ⟨hra, hrs⟩ := hrep
  cases agg with
  | some a =>
    cases List.isEmpty_iff.mp (show sigs.isEmpty = true from hc2)
    unbool at hra
    simp only [readAuth, encAuth, encAgg, List.append_assoc, Option.bind_eq_bind, Option.bind_some,
      readU16_write (show maxEncodingInt < 65536 by decide),
      readU16_write (show aggPrefix < 65536 by decide), if_true, readAgg_enc a rest hra hg]
  | none =>
    simp only [guardsAuth] at hg
    unbool at hg
    unbool at hrs
    obtain ⟨hsl, hml⟩ := hg
    simp only [readAuth, encAuth, List.append_assoc, Option.bind_eq_bind, Option.bind_some,
      readU16_write (Nat.lt_succ_of_lt hsl),
      show ¬ sigs.length = maxEncodingInt from Nat.ne_of_lt hsl, if_false]
    rcases Nat.eq_zero_or_pos sigs.length with h0 | h0
    · cases List.eq_nil_of_length_eq_zero h0
      rfl
    · rw [if_pos h0, Nat.min_eq_left hc1,
        readMany_flatMap sigs rest fun m hm r _ => readSignatures_enc r (hrs m hm) (hml m hm)]
      rfl

theorem readCounted_enc {α : Type} {f : Bytes → Option (α × Bytes)} (lim : Nat) (xs : List α)
    (body rest : Bytes) (h1 : xs.length ≤ lim) (h2 : xs.length < 65536)
    (h : readMany f xs.length (body ++ rest) = some (xs, rest)) :
    readCounted lim f (writeU16 xs.length ++ (body ++ rest)) = some (xs, rest) := by
  unfold readCounted
  rw [readU16_write h2]
  simp only
  rw [if_neg (Nat.not_lt.mpr h1), h]

theorem readExtra_enc (extra rest : Bytes) (h : extra.length ≤ 4194304) :
    readExtra (writeU32 extra.length ++ (extra ++ rest)) = some (extra, rest) := by
  unfold readExtra
  rw [readU32_write (Nat.lt_of_le_of_lt h (by decide))]
  simp only
  rw [if_neg (show ¬ extra.length > extraCapacity from Nat.not_lt.mpr h)]
  by_cases h0 : extra.length > 0
  · rw [if_pos h0]
    exact readN_append_pos rfl h0
  · rw [if_neg h0]
    cases List.eq_nil_of_length_eq_zero (Nat.eq_zero_of_not_pos h0)
    rfl

theorem readVersion_enc (rest : Bytes) :
    readVersion (magic ++ ([0x00, txVersion] ++ rest)) = some (txVersion, rest) := by
  unfold readVersion
  rw [← List.append_assoc, readN_append_pos (n := 4) (a := magic ++ [0x00, txVersion]) rfl (by decide)]
  simp

theorem readPayloadL_enc (lim : Nat) (p : Payload) (rest : Bytes)
    (hlim : sliceCountLimit ≤ lim) (hrep : repPayload p = true) (hg : guardsPayload p = true)
    (hl3 : p.references.length ≤ lim) (hl4 : ∀ o ∈ p.outputs, o.keys.length ≤ lim) :
    readPayloadL lim (encPayload p ++ rest) = some (p, rest) := by
  obtain ⟨version, asset, inputs, outputs, references, extra⟩ := p
  simp only [repPayload, guardsPayload, guardsBody] at hrep hg hl3 hl4
  unbool at hrep
  unbool at hg
  obtain ⟨⟨⟨hasset, hrin⟩, hrout⟩, hrref⟩ := hrep
  obtain ⟨rfl, ⟨⟨⟨⟨⟨hgil, hgin⟩, hgol⟩, hgout⟩, hgrl⟩, hgel⟩⟩ := hg
  simp only [readPayloadL, encPayload, List.append_assoc, Option.bind_eq_bind, Option.bind_some,
    readVersion_enc, readN_append_pos hasset (by decide),
    readCounted_enc lim inputs _ _ (Nat.le_trans hgil hlim) (Nat.lt_of_le_of_lt hgil (by decide))
      (readMany_flatMap inputs _ fun i hi r hr =>
        readInput_enc (hr (writeU16_ne_nil _ _)) (hrin i hi) (hgin i hi)),
    readCounted_enc lim outputs _ _ (Nat.le_trans hgol hlim) (Nat.lt_of_le_of_lt hgol (by decide))
      (readMany_flatMap outputs _ fun o ho r _ =>
        readOutputL_enc r (hrout o ho) (hgout o ho) (hl4 o ho)),
    readCounted_enc lim references _ _ hl3 (Nat.lt_succ_of_le hgrl) (readKeys_enc references _ hrref),
    readExtra_enc _ _ hgel]

theorem wf_canon_iff {tx : Tx} :
    WF tx ∧ canon tx = true ↔ PayloadOk tx.toPayload ∧ AuthOk tx.agg tx.sigs := by
  simp only [WF, rep, guards, canon, PayloadOk, AuthOk, Bool.and_eq_true, decide_eq_true_eq,
    List.all_eq_true]
  constructor
  · rintro ⟨⟨⟨h1, h2⟩, h3, h4⟩, ⟨⟨h5, h6⟩, h7⟩, h8⟩
    exact ⟨⟨h1, h3, h5, h6⟩, h2, h4, h7, h8⟩
  · rintro ⟨⟨h1, h3, h5, h6⟩, h2, h4, h7, h8⟩
    exact ⟨⟨⟨h1, h2⟩, h3, h4⟩, ⟨⟨h5, h6⟩, h7⟩, h8⟩

theorem decodeTx_eq_some {b : Bytes} {tx : Tx} :
    decodeTx b = some tx ↔ b.length ≤ txMaxSize ∧ decodeRaw b = some tx ∧ encodeTx tx = b := by
  unfold decodeTx
  by_cases hs : b.length > txMaxSize
  · rw [if_pos hs]
    exact ⟨nofun, fun h => absurd hs (Nat.not_lt.mpr h.1)⟩
  · rw [if_neg hs]
    cases decodeRaw b with
    | none => exact ⟨nofun, fun h => nomatch h.2.1⟩
    | some t =>
      rw [Option.ite_none_right_eq_some, beq_iff_eq, Option.some.injEq]
      constructor
      · rintro ⟨he, rfl⟩
        exact ⟨Nat.not_lt.mp hs, rfl, he⟩
      · rintro ⟨_, rfl, he⟩
        exact ⟨he, rfl⟩

end Mixin.TxCodec
