/-! Facts about conditionals and core `List` functions that several proof files need: one step down the guards of
    a validator, the last element of a sorted list, the length of a concatenation of equally long pieces, a map undone
    by a second map. Core Lean only. -/
namespace Mixin

/-- A conditional that equals something other than its `then` branch took its `else` branch:
    one step down the guards of a validator (applying it to `f … = a` unfolds `f`). -/
theorem of_ite_eq {α : Sort _} {c : Prop} [Decidable c] {r x a : α} (h : (if c then r else x) = a) (hr : r ≠ a) :
    ¬ c ∧ x = a := by
  by_cases hc : c
  · rw [if_pos hc] at h; exact absurd h hr
  · rw [if_neg hc] at h; exact ⟨hc, h⟩

/-- the same as a rewrite rule, for a whole cascade of guards at once -/
theorem ite_eq_iff_of_ne {α : Sort _} {c : Prop} [Decidable c] {r x a : α} (hr : r ≠ a) :
    (if c then r else x) = a ↔ ¬ c ∧ x = a :=
  ⟨fun h => of_ite_eq h hr, fun h => (if_neg h.1).trans h.2⟩

theorem pairwise_getLast {α : Type} {R : α → α → Prop} {l : List α} {last : α} (hs : l.Pairwise R)
    (hl : l.getLast? = some last) : ∀ e ∈ l, e = last ∨ R e last := by
  obtain ⟨ys, rfl⟩ := List.getLast?_eq_some_iff.mp hl
  intro e he
  rcases List.mem_append.mp he with h | h
  · exact Or.inr ((List.pairwise_append.mp hs).2.2 e h last (List.mem_singleton_self _))
  · exact Or.inl (List.mem_singleton.mp h)

theorem length_flatten_of_length_eq {α : Type} {n : Nat} (ws : List (List α)) (h : ∀ w ∈ ws, w.length = n) :
    ws.flatten.length = ws.length * n := by
  induction ws with
  | nil => exact (Nat.zero_mul n).symm
  | cons w t ih =>
    rw [List.flatten_cons, List.length_append, List.length_cons, Nat.succ_mul, Nat.add_comm,
      h w List.mem_cons_self, ih fun x hx => h x (List.mem_cons_of_mem _ hx)]

theorem map_map_cancel {α β : Type} {f : α → β} {g : β → α} {l : List α} (h : ∀ x ∈ l, g (f x) = x) :
    (l.map f).map g = l := by
  rw [List.map_map]
  exact (List.map_congr_left (g := id) h).trans (List.map_id l)

end Mixin
