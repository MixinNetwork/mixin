import Mixin.Model.SnapCodec
import Mixin.Proofs.BytesSnap
import Mixin.Facts.ExpectedC07
/-! Inversion and round-trip lemmas for the snapshot codec model (C07).

Every reader `f` of the decoder comes with two lemmas: `f_some`, `f b = some (a, r)` forces
`b = enc a ++ r` for the matching piece `enc a` of the encoder, and `f_append`,
`f (enc a ++ r) = some (a, r)` for well-formed `a` (`readTail`, which leaves no rest, has
`readTail_nil` and `readTail_be`). Encoder and decoder are both described through one explicit
byte layout. -/
namespace Mixin.SnapCodec
open Mixin.BytesSnap

theorem verCommon_eq : verCommon = 2 := Mixin.Facts.ExpectedC07.snapshotVersion
theorem txMax_eq : txMax = 255 := Mixin.Facts.ExpectedC07.snapshotTransactionsMaximum

/-- both references are `crypto.Hash` values, 32-byte arrays in Go -/
def WFRefs : Option RoundLink → Prop
  | none => True
  | some r => r.self.length = 32 ∧ r.ext.length = 32

/-- `crypto.CosiSignature`: a `uint64` mask and a 64-byte signature; `EncodeCosiSignature`
    panics on a zero mask, and the decoder reads a zero mask as "no signature" -/
def WFSig : Option CosiSig → Prop
  | none => True
  | some c => c.mask ≠ 0 ∧ c.mask < 2 ^ 64 ∧ c.sig.length = 64

/-- what the decoder guarantees about an accepted snapshot (and what the encoder needs in
    order to produce bytes the decoder accepts) -/
structure WF (s : Snapshot) : Prop where
  version : s.version = 2
  node : s.nodeId.length = 32
  round : s.round < 2 ^ 64
  refs : WFRefs s.refs
  txLen : ∀ x ∈ s.txs, x.length = 32
  count : 1 ≤ s.txs.length ∧ s.txs.length ≤ 255
  sorted : s.txs.Pairwise (fun a b => bytesLt a b = true)
  round0 : s.round = 0 → s.txs.length = 1 ∧ s.refs = none
  later : s.round ≠ 0 → s.refs.isSome = true
  ts : s.ts < 2 ^ 64
  sig : WFSig s.sig

/-- the snapshot with its transaction list sorted (what the encoder leaves behind in
    `s.Transactions` and what the decoder returns) -/
def canon (s : Snapshot) : Snapshot := { s with txs := sortTxs s.txs }

/-- lengths the Go types guarantee for any `Snapshot` value -/
structure Sized (s : Snapshot) : Prop where
  node : s.nodeId.length = 32
  round : s.round < 2 ^ 64
  refs : WFRefs s.refs
  txLen : ∀ x ∈ s.txs, x.length = 32
  ts : s.ts < 2 ^ 64

theorem sized_of_wf {s : Snapshot} (h : WF s) : Sized s :=
  { h with }

theorem sized_canon {s : Snapshot} (h : Sized s) : Sized (canon s) :=
  { h with txLen := fun x hx => h.txLen x (List.mem_mergeSort.mp hx) }

/-- Byte layout of everything before the topology: the fields of `s` in wire order, the
    transactions as they stand in `s` (an encoder input enters as `canon s`), then the already
    encoded signature field `sg`. -/
def layout (s : Snapshot) (sg : Bytes) : Bytes :=
  magic ++ ([0, UInt8.ofNat s.version] ++ (s.nodeId ++ (beBytes 8 s.round ++
    (encRefs s.refs ++ (beBytes 2 s.txs.length ++ (s.txs.flatten ++ (beBytes 8 s.ts ++ sg)))))))

theorem readRoundReferences_some {b r : Bytes} {rl : Option RoundLink}
    (h : readRoundReferences b = some (rl, r)) : b = encRefs rl ++ r ∧ WFRefs rl := by
  unfold readRoundReferences at h
  split at h
  · cases h
  rename_i rc r0 hrc
  obtain ⟨rfl, _⟩ := readU_some hrc
  by_cases h0 : rc = 0
  · rw [if_pos h0] at h
    cases h
    exact ⟨h0 ▸ rfl, trivial⟩
  rw [if_neg h0] at h
  obtain ⟨h2, h⟩ := Option.ite_none_left_eq_some.mp h
  split at h
  · cases h
  rename_i self r1 hs
  split at h
  · cases h
  rename_i ext r2 he
  cases h
  obtain rfl : rc = 2 := Decidable.not_not.mp h2
  obtain ⟨rfl, hl1⟩ := readN_some hs
  obtain ⟨rfl, hl2⟩ := readN_some he
  exact ⟨by simp only [encRefs, List.append_assoc], hl1, hl2⟩

theorem readRoundReferences_append (rl : Option RoundLink) (r : Bytes) (h : WFRefs rl) :
    readRoundReferences (encRefs rl ++ r) = some (rl, r) := by
  unfold readRoundReferences
  cases rl with
  | none =>
    rw [encRefs, readU_append r (by decide)]
    rfl
  | some l =>
    rw [encRefs, List.append_assoc, List.append_assoc, readU_append _ (by decide)]
    simp only [show (2 : Nat) ≠ 0 by decide, if_false, ne_eq, not_true_eq_false,
      readN_append _ h.1, readN_append _ h.2]

theorem readCosiSignature_some {b r : Bytes} {cs : Option CosiSig}
    (h : readCosiSignature b = some (cs, r)) :
    ∃ sg, encSig cs = some sg ∧ b = sg ++ r ∧ WFSig cs := by
  unfold readCosiSignature at h
  split at h
  · cases h
  rename_i m r0 hm
  obtain ⟨rfl, hlt⟩ := readU_some hm
  by_cases h0 : m = 0
  · rw [if_pos h0] at h
    cases h
    exact ⟨beBytes 8 0, rfl, h0 ▸ rfl, trivial⟩
  rw [if_neg h0] at h
  split at h
  · cases h
  rename_i sg r1 hs
  cases h
  obtain ⟨rfl, hl⟩ := readN_some hs
  exact ⟨beBytes 8 m ++ sg, if_neg h0, (List.append_assoc ..).symm, h0, hlt, hl⟩

theorem readCosiSignature_append (cs : Option CosiSig) (sg r : Bytes) (h : WFSig cs)
    (he : encSig cs = some sg) : readCosiSignature (sg ++ r) = some (cs, r) := by
  unfold readCosiSignature
  cases cs with
  | none =>
    cases he
    rw [readU_append r (by decide)]
    rfl
  | some c =>
    obtain ⟨h0, hlt, hl⟩ := h
    rw [encSig, if_neg h0] at he
    cases he
    rw [List.append_assoc, readU_append _ hlt]
    simp only [h0, if_false, readN_append _ hl]

theorem readHashes_some {n : Nat} {b r : Bytes} {hs : List Bytes}
    (h : readHashes n b = some (hs, r)) :
    b = hs.flatten ++ r ∧ hs.length = n ∧ ∀ x ∈ hs, x.length = 32 := by
  induction n generalizing b hs with
  | zero =>
    cases h
    exact ⟨rfl, rfl, fun _ hx => nomatch hx⟩
  | succ n ih =>
    unfold readHashes at h
    split at h
    · cases h
    rename_i x r0 hx
    split at h
    · cases h
    rename_i hs' r' hrec
    cases h
    obtain ⟨rfl, hl⟩ := readN_some hx
    obtain ⟨rfl, rfl, hall⟩ := ih hrec
    exact ⟨by rw [List.flatten_cons, List.append_assoc], rfl, List.forall_mem_cons.mpr ⟨hl, hall⟩⟩

theorem readHashes_append (hs : List Bytes) (r : Bytes) (h : ∀ x ∈ hs, x.length = 32) :
    readHashes hs.length (hs.flatten ++ r) = some (hs, r) := by
  induction hs with
  | nil => rfl
  | cons x xs ih =>
    obtain ⟨hx, hxs⟩ := List.forall_mem_cons.mp h
    rw [List.length_cons, List.flatten_cons, List.append_assoc, readHashes, readN_append _ hx]
    simp only [ih hxs]

theorem readTail_some {b : Bytes} {t : Nat} (h : readTail b = some t) :
    t < 2 ^ 64 ∧ ((b = [] ∧ t = 0) ∨ b = beBytes 8 t) := by
  unfold readTail at h
  by_cases h0 : b.length = 0
  · rw [if_pos h0] at h
    cases h
    exact ⟨by decide, Or.inl ⟨List.length_eq_zero_iff.mp h0, rfl⟩⟩
  rw [if_neg h0] at h
  obtain ⟨_, h⟩ := Option.ite_none_left_eq_some.mp h
  obtain ⟨h8, h⟩ := Option.ite_none_right_eq_some.mp h
  cases h
  have hlt := beNat_lt b
  rw [h8] at hlt
  exact ⟨hlt, Or.inr (h8 ▸ (beBytes_beNat b).symm)⟩

theorem readTail_nil : readTail [] = some 0 := rfl

theorem readTail_be {t : Nat} (h : t < 2 ^ 64) : readTail (beBytes 8 t) = some t := by
  unfold readTail
  rw [beBytes_length, if_neg (by decide), if_neg (by decide), if_pos rfl, beNat_beBytes 8 t h]

theorem strictlyIncreasing_iff {l : List Bytes} :
    strictlyIncreasing l = true ↔ l.Pairwise (fun a b => bytesLt a b = true) := by
  induction l with
  | nil => simp [strictlyIncreasing]
  | cons a t ih =>
    cases t with
    | nil => simp [strictlyIncreasing]
    | cons b rest =>
      rw [strictlyIncreasing, Bool.and_eq_true, ih, List.pairwise_cons (a := a)]
      refine and_congr_left fun hp => ⟨fun hab c hc => ?_, fun h => h b List.mem_cons_self⟩
      rcases List.mem_cons.mp hc with rfl | hc
      · exact hab
      · exact bytesLt_trans hab ((List.pairwise_cons.mp hp).1 c hc)

theorem hasAdjDup_of_increasing {l : List Bytes}
    (h : l.Pairwise (fun a b => bytesLt a b = true)) : hasAdjDup l = false := by
  induction l with
  | nil => rfl
  | cons a t ih =>
    cases t with
    | nil => rfl
    | cons b rest =>
      obtain ⟨h1, h2⟩ := List.pairwise_cons.mp h
      have hne : (a == b) = false := beq_eq_false_iff_ne.mpr fun hab =>
        Bool.false_ne_true (bytesLt_irrefl b ▸ hab ▸ h1 b List.mem_cons_self)
      rw [hasAdjDup, hne, Bool.false_or, ih h2]

theorem sortTxs_of_increasing {l : List Bytes}
    (h : l.Pairwise (fun a b => bytesLt a b = true)) : sortTxs l = l :=
  List.mergeSort_of_pairwise (h.imp bytesLe_of_lt)

theorem sortTxs_length (l : List Bytes) : (sortTxs l).length = l.length :=
  List.length_mergeSort l

theorem sortTxs_sorted (l : List Bytes) :
    (sortTxs l).Pairwise (fun a b => bytesLe a b = true) :=
  List.pairwise_mergeSort (le := bytesLe) (fun _ _ _ => bytesLe_trans) bytesLe_total l

theorem sortTxs_perm (l : List Bytes) : (sortTxs l).Perm l :=
  List.mergeSort_perm l _

theorem sortTxs_idem (l : List Bytes) : sortTxs (sortTxs l) = sortTxs l :=
  List.mergeSort_of_pairwise (sortTxs_sorted l)

theorem sortTxs_increasing_of_nodup {l : List Bytes} (h : l.Nodup) :
    (sortTxs l).Pairwise (fun a b => bytesLt a b = true) :=
  ((sortTxs_sorted l).and ((sortTxs_perm l).nodup_iff.mpr h)).imp
    fun ⟨hle, hne⟩ => bytesLt_of_le_of_ne hle hne

/-- The encoder reads the transaction list only through its sorted copy. -/
theorem encode_congr {s₁ s₂ : Snapshot} (hv : s₁.version = s₂.version)
    (hn : s₁.nodeId = s₂.nodeId) (hr : s₁.round = s₂.round) (hl : s₁.refs = s₂.refs)
    (ht : sortTxs s₁.txs = sortTxs s₂.txs) (hts : s₁.ts = s₂.ts) (hs : s₁.sig = s₂.sig)
    (w : Bool) : encodeSnapshotPayload s₁ w = encodeSnapshotPayload s₂ w := by
  have hlen : s₁.txs.length = s₂.txs.length := by
    rw [← sortTxs_length s₁.txs, ht, sortTxs_length]
  unfold encodeSnapshotPayload
  simp only [hv, hn, hr, hl, ht, hts, hs, hlen]

theorem encode_canon (s : Snapshot) (w : Bool) :
    encodeSnapshotPayload (canon s) w = encodeSnapshotPayload s w :=
  encode_congr (s₁ := canon s) (s₂ := s) rfl rfl rfl rfl (sortTxs_idem s.txs) rfl rfl w

theorem versionedPayload_congr {s₁ s₂ : Snapshot} (hv : s₁.version = s₂.version)
    (hn : s₁.nodeId = s₂.nodeId) (hr : s₁.round = s₂.round) (hl : s₁.refs = s₂.refs)
    (ht : sortTxs s₁.txs = sortTxs s₂.txs) (hts : s₁.ts = s₂.ts) :
    versionedPayload s₁ = versionedPayload s₂ := by
  unfold versionedPayload
  rw [encode_congr (s₁ := { s₁ with sig := none }) (s₂ := { s₂ with sig := none }) hv hn hr hl ht hts rfl,
    hv]

theorem encSig_isSome {c : Option CosiSig} (h : WFSig c) : ∃ sg, encSig c = some sg := by
  cases c with
  | none => exact ⟨_, rfl⟩
  | some c => exact ⟨_, if_neg h.1⟩

theorem versionedMarshal_of_encode {s : Snapshot} {body : Bytes} (hv : s.version = 2)
    (h : encodeSnapshotPayload s true = some body) (topo : Nat) :
    versionedMarshal s topo = some (body ++ beBytes 8 topo) := by
  rw [versionedMarshal, if_pos (verCommon_eq ▸ hv), encodeSnapshotWithTopo, h]

theorem encode_some {s : Snapshot} {w : Bool} {p : Bytes}
    (h : encodeSnapshotPayload s w = some p) :
    s.txs.length ≤ 255 ∧ ∃ sg, encSig s.sig = some sg ∧ p = layout (canon s) sg := by
  unfold encodeSnapshotPayload at h
  simp only [Option.ite_none_left_eq_some] at h
  obtain ⟨_, _, hc, _, _, h⟩ := h
  split at h
  · cases h
  rename_i sg hsg
  cases h
  rw [txMax_eq] at hc
  exact ⟨by omega, sg, hsg, rfl⟩

theorem versionedPayload_some {s : Snapshot} {p : Bytes} (h : versionedPayload s = some p) :
    s.version = 2 ∧ s.txs.length ≤ 255 ∧ p = layout (canon s) (beBytes 8 0) := by
  obtain ⟨hv, h⟩ := Option.ite_none_right_eq_some.mp h
  obtain ⟨hc, sg, hsg, rfl⟩ := encode_some h
  cases hsg
  exact ⟨verCommon_eq ▸ hv, hc, rfl⟩

theorem encode_of_wf {s : Snapshot} (h : WF s) {sg : Bytes} (withSig : Bool)
    (hs : encSig s.sig = some sg) (hw : withSig = false → s.sig = none) :
    encodeSnapshotPayload s withSig = some (layout s sg) := by
  unfold encodeSnapshotPayload
  have h1 : ¬ s.version < verCommon := by rw [verCommon_eq, h.version]; decide
  have h2 : ¬ (s.round = 0 ∧ s.txs.length ≠ 1) := fun ⟨a, b⟩ => b (h.round0 a).1
  have h3 : ¬ (s.txs.length < 1 ∨ s.txs.length > txMax) := by
    rw [txMax_eq]; have := h.count; omega
  have h4 : ¬ (withSig = false ∧ s.sig.isSome = true) := by
    intro ⟨a, b⟩; rw [hw a] at b; cases b
  simp only [h1, h2, h3, h4, if_false, sortTxs_of_increasing h.sorted,
    hasAdjDup_of_increasing h.sorted, hs]
  rfl

theorem checkSnapVersion_ge {hdr : Bytes} (hl : hdr.length = 4)
    (h : ¬ checkSnapVersion hdr < verCommon) :
    hdr = magic ++ [0, UInt8.ofNat 2] ∧ checkSnapVersion hdr = 2 := by
  unfold checkSnapVersion at h ⊢
  rw [verCommon_eq, if_neg (by omega), List.take_of_length_le (by omega)] at h ⊢
  by_cases he : hdr = magic ++ [0, UInt8.ofNat 2]
  · exact ⟨he, if_pos he⟩
  · rw [if_neg he] at h
    exact absurd (by decide) h

theorem checkSnapVersion_append {hdr : Bytes} (r : Bytes) (hl : hdr.length = 4) :
    checkSnapVersion (hdr ++ r) = checkSnapVersion hdr := by
  unfold checkSnapVersion
  rw [List.take_left' hl, List.take_of_length_le (by omega), List.length_append,
    if_neg (show ¬ hdr.length + r.length < 4 by omega), if_neg (show ¬ hdr.length < 4 by omega)]

theorem checkSnapVersion_hdr : checkSnapVersion (magic ++ [0, UInt8.ofNat 2]) = 2 := by decide

/-- the decoder's two checks on round number, transaction count and references are the round
    rules of `WF` -/
theorem roundChecks_iff (rn n : Nat) (rl : Option RoundLink) :
    ¬ (rn = 0 ∧ (n ≠ 1 ∨ rl.isSome = true)) ∧ ¬ (rn ≠ 0 ∧ rl.isNone = true) ↔
      (rn = 0 → n = 1 ∧ rl = none) ∧ (rn ≠ 0 → rl.isSome = true) := by
  cases rl <;> by_cases h : rn = 0 <;> simp [h]

theorem decode_inv {b : Bytes} {s : Snapshot} {t : Nat}
    (h : decodeSnapshotWithTopo b = some (s, t)) :
    WF s ∧ ∃ sg tail, encSig s.sig = some sg ∧ b = layout s sg ++ tail ∧ readTail tail = some t := by
  unfold decodeSnapshotWithTopo at h
  split at h
  · cases h
  rename_i hdr b1 hhdr
  have ⟨e0, l0⟩ := readN_some hhdr
  obtain ⟨hver, h⟩ := Option.ite_none_left_eq_some.mp h
  obtain ⟨ehdr, ever⟩ := checkSnapVersion_ge l0 hver
  split at h
  · cases h
  rename_i node b2 hnode
  have ⟨e1, l1⟩ := readN_some hnode
  split at h
  · cases h
  rename_i rn b3 hrn
  have ⟨e2, l2⟩ := readU_some hrn
  split at h
  · cases h
  rename_i rl b4 hrl
  have ⟨e3, l3⟩ := readRoundReferences_some hrl
  split at h
  · cases h
  rename_i tl b5 htl
  have ⟨e4, _⟩ := readU_some htl
  obtain ⟨hcnt, h⟩ := Option.ite_none_left_eq_some.mp h
  split at h
  · cases h
  rename_i txs b6 htxs
  have ⟨e5, l5, a5⟩ := readHashes_some htxs
  have hcount : 1 ≤ txs.length ∧ txs.length ≤ 255 := by rw [txMax_eq] at hcnt; omega
  obtain ⟨hinc, h⟩ := Option.ite_none_left_eq_some.mp h
  obtain ⟨hr0, h⟩ := Option.ite_none_left_eq_some.mp h
  obtain ⟨hr1, h⟩ := Option.ite_none_left_eq_some.mp h
  split at h
  · cases h
  rename_i ts b7 hts
  have ⟨e6, l6⟩ := readU_some hts
  split at h
  · cases h
  rename_i cs b8 hcs
  have ⟨sg, esg, e7, l7⟩ := readCosiSignature_some hcs
  split at h
  · cases h
  rename_i topo htopo
  cases h
  have ⟨hround0, hlater⟩ := (roundChecks_iff rn txs.length rl).mp ⟨hr0, hr1⟩
  refine ⟨⟨ever, l1, l2, l3, a5, hcount, strictlyIncreasing_iff.mp (Bool.not_eq_false _ ▸ hinc),
    hround0, hlater, l6, l7⟩, sg, b8, esg, ?_, htopo⟩
  rw [e0, e1, e2, e3, e4, e5, e6, e7, ← l5, ever, ehdr]
  simp only [layout, List.append_assoc]

theorem decode_layout {s : Snapshot} (h : WF s) {sg : Bytes} (hs : encSig s.sig = some sg)
    (tail : Bytes) {t : Nat} (ht : readTail tail = some t) :
    decodeSnapshotWithTopo (layout s sg ++ tail) = some (s, t) := by
  have ⟨g0, g1⟩ := (roundChecks_iff s.round s.txs.length s.refs).mpr ⟨h.round0, h.later⟩
  have hc : ¬ (s.txs.length < 1 ∨ s.txs.length > 255) := by have := h.count; omega
  have hlen : s.txs.length < 256 ^ 2 := by have := h.count; omega
  unfold decodeSnapshotWithTopo layout
  rw [← List.append_assoc magic, h.version]
  simp only [List.append_assoc _ _ tail]
  -- one reader after the other consumes its piece of the layout
  simp only [readN_append _ (show (magic ++ [0, UInt8.ofNat 2]).length = 4 from rfl),
    checkSnapVersion_hdr, verCommon_eq, Nat.lt_irrefl, if_false,
    readN_append _ h.node, readU_append (k := 8) _ h.round, readRoundReferences_append _ _ h.refs,
    readU_append _ hlen, txMax_eq, hc, readHashes_append _ _ h.txLen,
    strictlyIncreasing_iff.mpr h.sorted, Bool.true_eq_false, g0, g1,
    readU_append (k := 8) _ h.ts, readCosiSignature_append _ _ _ h.sig hs, ht]
  -- the decoder returns the version it found in the header
  rw [← h.version]

/-- `UnmarshalVersionedSnapshot` checks the version on the same four octets the decoder reads
    first, so it accepts and returns exactly what the decoder does. -/
theorem unmarshal_eq_decode (b : Bytes) :
    unmarshalVersionedSnapshot b = decodeSnapshotWithTopo b := by
  unfold unmarshalVersionedSnapshot
  by_cases hv : checkSnapVersion b < verCommon
  · rw [if_pos hv]
    unfold decodeSnapshotWithTopo
    split
    · rfl
    · rename_i hdr b1 hhdr
      obtain ⟨rfl, hl⟩ := readN_some hhdr
      rw [checkSnapVersion_append _ hl] at hv
      exact (if_pos hv).symm
  · exact if_neg hv

theorem read_unique {α : Type} {f : Bytes → Option (α × Bytes)} {x y : Bytes} {a b : α}
    {X Y : Bytes} (hx : f x = some (a, X)) (hy : f y = some (b, Y)) (h : x = y) :
    a = b ∧ X = Y := by
  rw [h, hy] at hx
  cases hx
  exact ⟨rfl, rfl⟩

theorem layout_inj {s₁ s₂ : Snapshot} {g₁ g₂ : Bytes} (w₁ : Sized s₁) (w₂ : Sized s₂)
    (c₁ : s₁.txs.length ≤ 255) (c₂ : s₂.txs.length ≤ 255)
    (h : layout s₁ g₁ = layout s₂ g₂) :
    s₁.nodeId = s₂.nodeId ∧ s₁.round = s₂.round ∧ s₁.refs = s₂.refs ∧
      s₁.txs = s₂.txs ∧ s₁.ts = s₂.ts := by
  -- Strip `magic` and the two version octets, then run the readers over both sides in step:
  -- each returns its field and what is left, and these agree because the inputs do.
  have h := (List.append_inj (List.append_cancel_left h) rfl).2
  obtain ⟨e1, h⟩ := read_unique (readN_append _ w₁.node) (readN_append _ w₂.node) h
  obtain ⟨e2, h⟩ := read_unique (readU_append _ w₁.round) (readU_append _ w₂.round) h
  obtain ⟨e3, h⟩ := read_unique (readRoundReferences_append _ _ w₁.refs)
    (readRoundReferences_append _ _ w₂.refs) h
  obtain ⟨e4, h⟩ := read_unique (readU_append (k := 2) _ (by omega))
    (readU_append (k := 2) _ (by omega)) h
  obtain ⟨e5, h⟩ := read_unique (readHashes_append _ _ w₁.txLen)
    (e4 ▸ readHashes_append _ _ w₂.txLen) h
  obtain ⟨e6, _⟩ := read_unique (readU_append _ w₁.ts) (readU_append _ w₂.ts) h
  exact ⟨e1, e2, e3, e5, e6⟩

end Mixin.SnapCodec
