import Mixin.Proofs.Membership
/-! `foldl upsert []` keeps exactly the last record of every id (`mem_foldl_upsert`); in a `(ts, id)`-sorted list
with distinct keys the last record of an id is its largest (`lastOf_sorted`). -/
namespace Mixin.Membership

def LastOf (l : List Rec) (r : Rec) : Prop := ∃ pre post, l = pre ++ r :: post ∧ ∀ x ∈ post, x.id ≠ r.id

def IdsNodup (m : List Rec) : Prop := m.Pairwise (fun a b => a.id ≠ b.id)

theorem mem_upsert {m : List Rec} (hm : IdsNodup m) (n x : Rec) :
    x ∈ upsert m n ↔ x = n ∨ (x ∈ m ∧ x.id ≠ n.id) := by
  induction m with
  | nil => simp [upsert]
  | cons a t ih =>
    obtain ⟨ha, ht⟩ := List.pairwise_cons.1 hm
    rw [upsert]
    split
    · next e =>
      -- `a` is the only entry with this id
      simp only [List.mem_cons]
      refine or_congr_right ⟨fun h => ⟨.inr h, fun hx => ha x h (e.trans hx.symm)⟩, ?_⟩
      rintro ⟨rfl | h, hne⟩
      · exact absurd e hne
      · exact h
    · next e =>
      simp only [List.mem_cons, ih ht, or_and_right]
      rw [or_left_comm]
      exact or_congr_right (or_congr_left ⟨fun h => ⟨h, h ▸ e⟩, And.left⟩)

theorem upsert_idsNodup {m : List Rec} (hm : IdsNodup m) (n : Rec) : IdsNodup (upsert m n) := by
  induction m with
  | nil => exact List.pairwise_singleton _ _
  | cons a t ih =>
    obtain ⟨ha, ht⟩ := List.pairwise_cons.1 hm
    rw [upsert]
    split
    · next e => exact List.pairwise_cons.2 ⟨fun y hy => e ▸ ha y hy, ht⟩
    · next e =>
      refine List.pairwise_cons.2 ⟨fun y hy => ?_, ih ht⟩
      rcases (mem_upsert ht n y).1 hy with rfl | ⟨h, _⟩
      · exact e
      · exact ha y h

theorem lastOf_cons (a : Rec) (l : List Rec) (x : Rec) :
    LastOf (a :: l) x ↔ LastOf l x ∨ (x = a ∧ ∀ y ∈ l, y.id ≠ a.id) := by
  constructor
  · rintro ⟨_ | ⟨b, pre⟩, post, he, hp⟩
    · cases he; exact .inr ⟨rfl, hp⟩
    · cases he; exact .inl ⟨pre, post, rfl, hp⟩
  · rintro (⟨pre, post, rfl, hp⟩ | ⟨rfl, hp⟩)
    · exact ⟨a :: pre, post, rfl, hp⟩
    · exact ⟨[], l, rfl, hp⟩

theorem mem_foldl_upsert (l : List Rec) (m : List Rec) (hm : IdsNodup m) (x : Rec) :
    x ∈ l.foldl upsert m ↔ LastOf l x ∨ (x ∈ m ∧ ∀ y ∈ l, y.id ≠ x.id) := by
  induction l generalizing m with
  | nil => simp [LastOf]
  | cons a l ih =>
    rw [List.foldl_cons, ih (upsert m a) (upsert_idsNodup hm a), mem_upsert hm, lastOf_cons]
    simp only [or_and_right, or_assoc, List.forall_mem_cons, and_assoc]
    -- the same three cases on both sides: the second with `x = a`, the third with the inequality turned round
    exact or_congr_right (or_congr (and_congr_right fun h => h ▸ Iff.rfl)
      (and_congr_right fun _ => and_congr_left' ne_comm))

theorem foldl_upsert_idsNodup (l m : List Rec) (hm : IdsNodup m) : IdsNodup (l.foldl upsert m) := by
  induction l generalizing m with
  | nil => exact hm
  | cons a l ih => exact ih _ (upsert_idsNodup hm a)

theorem lastOf_sorted {L : List Rec} (hs : Sorted L) (hd : DistinctKeys L) (r : Rec) :
    LastOf L r ↔ r ∈ L ∧ ∀ r' ∈ L, r'.id = r.id → ¬ recLt r r' = true := by
  constructor
  · rintro ⟨pre, post, rfl, hp⟩
    refine ⟨by simp, fun r' hr' hid => ?_⟩
    rcases List.mem_append.1 hr' with h | h
    · exact (List.pairwise_append.1 hs).2.2 r' h r List.mem_cons_self
    · rcases List.mem_cons.1 h with rfl | h
      · exact recLt_irrefl _
      · exact absurd hid (hp r' h)
  · rintro ⟨hm, hall⟩
    obtain ⟨s, t, rfl⟩ := List.append_of_mem hm
    refine ⟨s, t, rfl, fun x hx hid => ?_⟩
    -- `x` comes after `r` with the same id, and not above it: the same key
    have h1 := hall x (by simp [hx]) hid
    have h2 : LeRec r x := (List.pairwise_cons.1 (List.pairwise_append.1 hs).2.1).1 x hx
    rw [recLt_iff] at h1
    rw [leRec_iff] at h2
    exact (List.pairwise_cons.1 (List.pairwise_append.1 hd).2.1).1 x hx ⟨by omega, hid.symm⟩

end Mixin.Membership
