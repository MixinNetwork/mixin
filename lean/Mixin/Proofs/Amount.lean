import Mixin.Model.Amount
/-! What a defined result of `Integer` arithmetic says about its arguments (`none` is the Go panic). -/
namespace Mixin.Amount

theorem add_some {x y z : Nat} (h : add x y = some z) : 0 < y ∧ z = x + y := by
  obtain ⟨hy, h⟩ := Option.ite_none_left_eq_some.mp h
  cases h; omega

theorem add_none {x y : Nat} (h : add x y = none) : y = 0 := by
  unfold add at h
  split at h
  · assumption
  · cases h

theorem sub_some {x y z : Nat} (h : sub x y = some z) : 0 < y ∧ y ≤ x ∧ z = x - y := by
  obtain ⟨hy, h⟩ := Option.ite_none_left_eq_some.mp h
  cases h; omega

theorem mul_some {x z : Nat} {k : Int} (h : mul x k = some z) : 0 < k ∧ z = x * k.toNat := by
  obtain ⟨hk, h⟩ := Option.ite_none_left_eq_some.mp h
  cases h; omega

theorem div_some {x z : Nat} {k : Int} (h : div x k = some z) : 0 < k ∧ z = x / k.toNat := by
  obtain ⟨hk, h⟩ := Option.ite_none_left_eq_some.mp h
  cases h; omega

end Mixin.Amount
