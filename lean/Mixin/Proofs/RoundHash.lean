import Mixin.Model.RoundHash
import Mixin.Proofs.Basics
import Mixin.Proofs.BytesSnap
/-! Lemmas for the round hash model (C18): the key order is a total preorder that is
    antisymmetric on keys, so sorting the keys is canonical; the pieces of the function body;
    the specification over the sorted key list that `C18.roundhash_spec` shows the model equal to. -/
namespace Mixin.RoundHash
open Mixin.BytesSnap

theorem keyLess_iff (a b : Nat × Bytes) :
    keyLess a b = true ↔ a.1 < b.1 ∨ (a.1 = b.1 ∧ bytesLt a.2 b.2 = true) :=
  lexStep_iff

theorem keyLe_iff (a b : Nat × Bytes) :
    keyLe a b = true ↔ a.1 < b.1 ∨ (a.1 = b.1 ∧ bytesLe a.2 b.2 = true) := by
  rw [keyLe, Bool.not_eq_true', ← Bool.not_eq_true, keyLess_iff, bytesLe, Bool.not_eq_true',
    ← Bool.not_eq_true]
  -- "`b` is not lexicographically below `a`", sorted out by how the timestamps compare
  rcases Nat.lt_trichotomy a.1 b.1 with h | h | h
  · simp [h, Nat.lt_asymm h, Nat.ne_of_gt h]
  · simp [h]
  · simp [h, Nat.lt_asymm h, Nat.ne_of_gt h]

theorem keyLe_trans {a b c : Nat × Bytes} (h1 : keyLe a b = true) (h2 : keyLe b c = true) :
    keyLe a c = true := by
  rw [keyLe_iff] at h1 h2 ⊢
  rcases h1 with h1 | ⟨e1, l1⟩ <;> rcases h2 with h2 | ⟨e2, l2⟩
  · exact Or.inl (Nat.lt_trans h1 h2)
  · exact Or.inl (e2 ▸ h1)
  · exact Or.inl (e1 ▸ h2)
  · exact Or.inr ⟨e1.trans e2, bytesLe_trans l1 l2⟩

theorem keyLe_total (a b : Nat × Bytes) : (keyLe a b || keyLe b a) = true := by
  rw [Bool.or_eq_true, keyLe_iff, keyLe_iff]
  rcases Nat.lt_trichotomy a.1 b.1 with h | h | h
  · exact Or.inl (Or.inl h)
  · exact (Bool.or_eq_true _ _ ▸ bytesLe_total a.2 b.2).imp (fun l => Or.inr ⟨h, l⟩)
      (fun l => Or.inr ⟨h.symm, l⟩)
  · exact Or.inr (Or.inl h)

theorem keyLe_antisymm {a b : Nat × Bytes} (h1 : keyLe a b = true) (h2 : keyLe b a = true) :
    a = b := by
  rw [keyLe_iff] at h1 h2
  rcases h1 with h1 | ⟨e1, l1⟩ <;> rcases h2 with h2 | ⟨e2, l2⟩
  · exact absurd h2 (Nat.lt_asymm h1)
  · exact absurd (e2 ▸ h1) (Nat.lt_irrefl _)
  · exact absurd (e1 ▸ h2) (Nat.lt_irrefl _)
  · exact Prod.ext e1 (bytesLe_antisymm l1 l2)

theorem keyLe_fst {a b : Nat × Bytes} (h : keyLe a b = true) : a.1 ≤ b.1 :=
  ((keyLe_iff a b).mp h).elim Nat.le_of_lt fun h => Nat.le_of_eq h.1

def sortKeys (ks : List (Nat × Bytes)) : List (Nat × Bytes) := ks.mergeSort keyLe

theorem sortKeys_sorted (ks : List (Nat × Bytes)) :
    (sortKeys ks).Pairwise (fun a b => keyLe a b = true) :=
  List.pairwise_mergeSort (le := keyLe) (fun _ _ _ => keyLe_trans) keyLe_total ks

theorem sortKeys_perm (ks : List (Nat × Bytes)) : (sortKeys ks).Perm ks :=
  List.mergeSort_perm ks keyLe

theorem sortKeys_eq_of_perm {k₁ k₂ : List (Nat × Bytes)} (h : k₁.Perm k₂) :
    sortKeys k₁ = sortKeys k₂ :=
  mergeSort_eq_of_perm (le := keyLe) (fun _ _ _ => keyLe_trans) keyLe_total
    (fun _ _ => keyLe_antisymm) h

theorem map_key_sortSnaps {α : Type} (v : View α) (l : List α) :
    (sortSnaps v l).map (key v) = sortKeys (l.map (key v)) :=
  List.map_mergeSort fun _ _ _ _ => rfl

theorem getLast?_cons_lastOr {α : Type} (a : α) (l : List α) : (a :: l).getLast? = some (lastOr a l) := by
  induction l generalizing a with
  | nil => rfl
  | cons b t ih => rw [List.getLast?_cons_cons]; exact ih b

theorem lastOr_mem {α : Type} (a : α) (l : List α) : lastOr a l ∈ a :: l :=
  List.mem_of_getLast? (getLast?_cons_lastOr a l)

theorem lastOr_map {α β : Type} (f : α → β) (a : α) (l : List α) :
    lastOr (f a) (l.map f) = f (lastOr a l) := by
  induction l generalizing a with
  | nil => rfl
  | cons b t ih => simp only [List.map_cons, lastOr]; exact ih b

theorem sorted_ts_le_last {a : Nat × Bytes} {l : List (Nat × Bytes)}
    (h : (a :: l).Pairwise (fun x y => keyLe x y = true)) :
    ∀ x ∈ a :: l, x.1 ≤ (lastOr a l).1 := fun x hx =>
  (pairwise_getLast h (getLast?_cons_lastOr a l) x hx).elim (fun e => e ▸ Nat.le_refl _) keyLe_fst

theorem sorted_first_le {a : Nat × Bytes} {l : List (Nat × Bytes)}
    (h : (a :: l).Pairwise (fun x y => keyLe x y = true)) :
    ∀ x ∈ a :: l, a.1 ≤ x.1 :=
  List.forall_mem_cons.mpr ⟨Nat.le_refl _, fun x hx => keyLe_fst ((List.pairwise_cons.mp h).1 x hx)⟩

theorem maxVersion_ge {α : Type} (v : View α) (v0 : Nat) (l : List α) :
    v0 ≤ maxVersion v v0 l ∧ ∀ s ∈ l, v.version s ≤ maxVersion v v0 l := by
  induction l generalizing v0 with
  | nil => exact ⟨Nat.le_refl _, fun _ hs => nomatch hs⟩
  | cons a t ih =>
    obtain ⟨g1, g2⟩ := ih (if v.version a > v0 then v.version a else v0)
    have hm : v0 ≤ (if v.version a > v0 then v.version a else v0) ∧
        v.version a ≤ (if v.version a > v0 then v.version a else v0) := by
      split <;> omega
    exact ⟨Nat.le_trans hm.1 g1, List.forall_mem_cons.mpr ⟨Nat.le_trans hm.2 g1, g2⟩⟩

theorem chain_ok {α : Type} (v : View α) (H : Bytes → Bytes) (ver e : Nat) (h : Bytes) (l : List α)
    (hl : ∀ s ∈ l, v.version s ≤ ver ∧ v.ts s ≤ e) :
    chain v H ver e h l = some (l.foldl (fun h s => H (h ++ v.hash s)) h) := by
  induction l generalizing h with
  | nil => rfl
  | cons a t ih =>
    obtain ⟨h1, h2⟩ := hl a (by simp)
    simp only [chain, List.foldl_cons]
    rw [if_neg (by omega), if_neg (by omega)]
    exact ih _ (fun s hs => hl s (by simp [hs]))

def foldKeys (H : Bytes → Bytes) (h : Bytes) (ks : List (Nat × Bytes)) : Bytes :=
  ks.foldl (fun h k => H (h ++ k.2)) h

/-- the result, given the keys already sorted -/
def specSorted (H : Bytes → Bytes) (node : Bytes) (number : Nat) :
    List (Nat × Bytes) → Option (Nat × Nat × Bytes)
  | [] => none
  | k :: ks =>
    if (lastOr k ks).1 ≥ (k.1 + roundGap) % 2 ^ 64 then none
    else some (k.1, (lastOr k ks).1, foldKeys H (H (node ++ beBytes 8 number)) (k :: ks))

/-- The specification: sort the (timestamp, hash) pairs, then chain the hashes. A function of
    node, number and the multiset of pairs only. -/
def spec (H : Bytes → Bytes) (node : Bytes) (number : Nat) (ks : List (Nat × Bytes)) :
    Option (Nat × Nat × Bytes) :=
  specSorted H node number (sortKeys ks)

theorem specSorted_some {H : Bytes → Bytes} {node : Bytes} {number : Nat}
    {ks : List (Nat × Bytes)} {s e : Nat} {h : Bytes}
    (hr : specSorted H node number ks = some (s, e, h)) :
    ∃ k rest, ks = k :: rest ∧ s = k.1 ∧ e = (lastOr k rest).1 ∧ e < (s + roundGap) % 2 ^ 64 ∧
      h = foldKeys H (H (node ++ beBytes 8 number)) ks := by
  cases ks with
  | nil => cases hr
  | cons k rest =>
    rw [specSorted] at hr
    obtain ⟨hg, hr⟩ := Option.ite_none_left_eq_some.mp hr
    cases hr
    exact ⟨k, rest, rfl, rfl, rfl, Nat.lt_of_not_ge hg, rfl⟩

end Mixin.RoundHash
