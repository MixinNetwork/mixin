import Mixin.Model.Base58
import Mixin.Proofs.Basics
import Mathlib.Data.Nat.Digits.Lemmas
import Mathlib.Tactic.Ring
/-!
The loops of `Mixin.Model.Base58` are positional numeral conversion. With enough fuel `encodeLoop` gives the
base-58 digits of Mathlib's `Nat.digits` (`encodeLoop_eq`), `chunkRunes` and `decodeLoop` evaluate them
(`chunkRunes_eq`, `decodeLoop_eq`); `Encode` and `Decode` are then the same change of base `conv`, which keeps the
leading zero digits (`encode_eq_conv`, `decode?_eq_conv`), and the round trips of C32 are `conv_roundtrip`.
-/
namespace Mixin.Base58
open Mixin.Proto

theorem digitsAux_eq {b : Nat} (hb : 1 < b) : ∀ (f n : Nat), n ≤ f → digitsAux b f n = Nat.digits b n
  | 0, n, h => by
    obtain rfl := Nat.le_zero.mp h
    simp [digitsAux]
  | f + 1, n, h => by
    simp only [digitsAux]
    split_ifs with h0
    · subst h0; simp
    · have hpos : 0 < n := Nat.pos_of_ne_zero h0
      rw [Nat.digits_def' hb hpos, digitsAux_eq hb f (n / b)]
      have : n / b < n := Nat.div_lt_self hpos hb
      omega

theorem digitsLE_eq {b : Nat} (hb : 1 < b) (n : Nat) : digitsLE b n = Nat.digits b n :=
  digitsAux_eq hb n n (Nat.le_refl n)

theorem ofBE_eq (b : Nat) (ds : List Nat) : ofBE b ds = Nat.ofDigits b ds.reverse := by
  rw [Nat.ofDigits_eq_foldr, List.foldr_reverse]
  simp only [ofBE, Nat.cast_id, Nat.add_comm, Nat.mul_comm]

theorem ofBE_digits {b : Nat} (x : Nat) : ofBE b (Nat.digits b x).reverse = x := by
  rw [ofBE_eq, List.reverse_reverse, Nat.ofDigits_digits]

theorem ofBE_zeros (b : Nat) : ∀ (k : Nat) (ds : List Nat), ofBE b (List.replicate k 0 ++ ds) = ofBE b ds
  | 0, _ => rfl
  | k + 1, ds => by
    have ih := ofBE_zeros b k ds
    unfold ofBE at *
    simp only [List.replicate_succ, List.cons_append, List.foldl_cons, Nat.zero_mul, Nat.add_zero]
    exact ih

/-- number of leading zero digits -/
def lz : List Nat → Nat
  | [] => 0
  | d :: r => if d = 0 then lz r + 1 else 0

/-- numeral conversion from base `b1` to base `b2` (big-endian digit lists) that keeps the
    number of leading zero digits — what `Encode` and `Decode` both do -/
def conv (b1 b2 : Nat) (ds : List Nat) : List Nat :=
  List.replicate (lz ds) 0 ++ (Nat.digits b2 (ofBE b1 ds)).reverse

theorem canon {b : Nat} (hb : 1 < b) : ∀ ds : List Nat, (∀ d ∈ ds, d < b) →
    List.replicate (lz ds) 0 ++ (Nat.digits b (ofBE b ds)).reverse = ds
  | [], _ => by simp [lz, ofBE]
  | d :: t, h => by
    by_cases hd : d = 0
    · subst hd
      rw [show ofBE b (0 :: t) = ofBE b t from ofBE_zeros b 1 t, lz, if_pos rfl, List.replicate_succ,
        List.cons_append, canon hb t fun x hx => h x (List.mem_cons_of_mem _ hx)]
    · rw [lz, if_neg hd, ofBE_eq, Nat.digits_ofDigits b hb, List.reverse_reverse]
      · rfl
      · exact fun l hl => h l (List.mem_reverse.mp hl)
      · intro hne
        rw [List.getLast_reverse]
        exact hd

theorem lz_zeros_digits {b : Nat} (x : Nat) : ∀ k : Nat,
    lz (List.replicate k 0 ++ (Nat.digits b x).reverse) = k
  | k + 1 => by rw [List.replicate_succ, List.cons_append, lz, if_pos rfl, lz_zeros_digits x k]
  | 0 => by
    -- the leading digit of a nonzero number is not zero
    cases hr : (Nat.digits b x).reverse with
    | nil => rfl
    | cons d r =>
      have hne : Nat.digits b x ≠ [] := fun e => by simp [e] at hr
      have hd : d = (Nat.digits b x).getLast hne := by
        rw [← List.head_reverse (List.reverse_ne_nil_iff.mpr hne)]; simp only [hr, List.head_cons]
      exact if_neg (hd ▸ Nat.getLast_digit_ne_zero b (Nat.digits_ne_nil_iff_ne_zero.mp hne))

theorem zeros_digits_lt {b : Nat} (hb : 1 < b) (k x : Nat) :
    ∀ d ∈ List.replicate k 0 ++ (Nat.digits b x).reverse, d < b := by
  intro d hd
  rcases List.mem_append.mp hd with hd | hd
  · rw [(List.mem_replicate.mp hd).2]; omega
  · exact Nat.digits_lt_base hb (List.mem_reverse.mp hd)

theorem conv_lt {b1 b2 : Nat} (hb2 : 1 < b2) (ds : List Nat) : ∀ d ∈ conv b1 b2 ds, d < b2 :=
  zeros_digits_lt hb2 _ _

theorem conv_roundtrip {b1 b2 : Nat} (hb1 : 1 < b1) (ds : List Nat) (h : ∀ d ∈ ds, d < b1) :
    conv b2 b1 (conv b1 b2 ds) = ds := by
  unfold conv
  rw [lz_zeros_digits, ofBE_zeros, ofBE_digits]
  exact canon hb1 ds h

/-- All that is asked of the table: the characters are in increasing order (so none occurs
    twice), and all are ASCII. -/
theorem alphabet_table : alphabetNat.IsChain (· < ·) ∧ ∀ x ∈ alphabetNat, x < 128 := by decide +kernel

theorem alphabet_nodup : alphabetNat.Nodup :=
  (List.isChain_iff_pairwise.mp alphabet_table.1).imp Nat.ne_of_lt

theorem b58_alpha (d : Nat) (h : d < 58) : b58 (alpha d) = d := by
  have hd : d < alphabetNat.length := h
  have hx : alphabetNat[d] < 128 := alphabet_table.2 _ (List.getElem_mem hd)
  unfold b58 alpha
  rw [List.getD_eq_getElem?_getD, List.getElem?_eq_getElem hd, Option.getD_some, UInt8.toNat_ofNat_of_lt' (Nat.lt_trans hx (by decide)),
    alphabet_nodup.idxOf_getElem d hd]
  exact if_pos h

theorem alpha_b58 (c : UInt8) (h : b58 c ≠ 255) : alpha (b58 c) = c ∧ b58 c < 58 := by
  have hi : alphabetNat.idxOf c.toNat < alphabetNat.length := by
    by_contra hn; exact h (if_neg hn)
  rw [show b58 c = alphabetNat.idxOf c.toNat from if_pos hi]
  refine ⟨?_, hi⟩
  unfold alpha
  rw [List.getD_eq_getElem?_getD, List.getElem?_eq_getElem hi, Option.getD_some, List.getElem_idxOf hi]
  exact UInt8.ofNat_toNat

theorem b58_high (c : UInt8) (h : 128 ≤ c.toNat) : b58 c = 255 := by
  have hm : c.toNat ∉ alphabetNat := fun hm => Nat.not_lt.mpr h (alphabet_table.2 _ hm)
  unfold b58
  rw [List.idxOf_eq_length hm]
  rfl

theorem alpha_zero : alpha 0 = idx0 := rfl

theorem b58_eq_zero {c : UInt8} (h : b58 c ≠ 255) : b58 c = 0 ↔ c = idx0 := by
  constructor
  · intro h0
    have := (alpha_b58 c h).1
    rw [h0, alpha_zero] at this
    exact this.symm
  · intro e; rw [e, ← alpha_zero, b58_alpha 0 (by decide)]

def Valid (s : Bytes) : Prop := ∀ c ∈ s, b58 c ≠ 255

theorem valid_cons {c : UInt8} {r : Bytes} : Valid (c :: r) ↔ b58 c ≠ 255 ∧ Valid r := List.forall_mem_cons

theorem map_alpha_b58 (s : Bytes) (h : Valid s) : (s.map b58).map alpha = s :=
  map_map_cancel fun c hc => (alpha_b58 c (h c hc)).1

theorem map_b58_alpha (ds : List Nat) (h : ∀ d ∈ ds, d < 58) : (ds.map alpha).map b58 = ds :=
  map_map_cancel fun d hd => b58_alpha d (h d hd)

theorem valid_map_alpha (ds : List Nat) (h : ∀ d ∈ ds, d < 58) : Valid (ds.map alpha) :=
  List.forall_mem_map.mpr fun d hd => by
    rw [b58_alpha d (h d hd)]
    exact Nat.ne_of_lt (Nat.lt_trans (h d hd) (by decide))

theorem map_b58_lt (s : Bytes) (h : Valid s) : ∀ d ∈ s.map b58, d < 58 :=
  List.forall_mem_map.mpr fun c hc => (alpha_b58 c (h c hc)).2

theorem map_toUInt8_toNat (l : Bytes) : (l.map UInt8.toNat).map Nat.toUInt8 = l :=
  map_map_cancel fun _ _ => UInt8.ofNat_toNat

theorem map_toNat_toUInt8 (ds : List Nat) (h : ∀ d ∈ ds, d < 256) : (ds.map Nat.toUInt8).map UInt8.toNat = ds :=
  map_map_cancel fun d hd => UInt8.toNat_ofNat_of_lt' (h d hd)

theorem map_toNat_lt (l : Bytes) : ∀ d ∈ l.map UInt8.toNat, d < 256 :=
  List.forall_mem_map.mpr fun c _ => UInt8.toNat_lt_size c

theorem bytesToNat_eq (b : Bytes) : bytesToNat b = ofBE 256 (b.map UInt8.toNat) := by
  unfold bytesToNat ofBE
  rw [List.foldl_map]

theorem natToBytes_eq (n : Nat) : natToBytes n = (Nat.digits 256 n).reverse.map Nat.toUInt8 := by
  unfold natToBytes
  rw [digitsLE_eq (by decide)]

theorem leadingCount_zero : ∀ b : Bytes, leadingCount 0 b = lz (b.map UInt8.toNat)
  | [] => rfl
  | c :: r => by
    have : c = 0 ↔ c.toNat = 0 := UInt8.toNat_inj.symm
    simp only [leadingCount, List.map_cons, lz, leadingCount_zero r, this]

theorem leadingCount_idx0 : ∀ s : Bytes, Valid s → leadingCount idx0 s = lz (s.map b58)
  | [], _ => rfl
  | c :: r, h => by
    simp only [leadingCount, List.map_cons, lz, leadingCount_idx0 r (valid_cons.mp h).2,
      b58_eq_zero (valid_cons.mp h).1]

theorem emitWhile_eq : ∀ f m : Nat, emitWhile f m = (digitsAux 58 f m).map alpha
  | 0, _ => rfl
  | f + 1, m => by
    simp only [emitWhile, digitsAux]
    split
    · rfl
    · rw [List.map_cons, emitWhile_eq f]

theorem emitN_mod : ∀ (k x : Nat), emitN k (x % 58 ^ k) = emitN k x
  | 0, _ => rfl
  | k + 1, x => by
    simp only [emitN]
    rw [Nat.pow_succ, Nat.mod_mul_left_mod, Nat.mul_comm, Nat.mod_mul_right_div_self, emitN_mod k]

theorem emitN_append_digits : ∀ (k x : Nat), 58 ^ k ≤ x →
    emitN k x ++ (Nat.digits 58 (x / 58 ^ k)).map alpha = (Nat.digits 58 x).map alpha
  | 0, x, _ => by rw [Nat.pow_zero, Nat.div_one]; rfl
  | k + 1, x, h => by
    have hpos : 0 < x := Nat.lt_of_lt_of_le (Nat.pow_pos (by decide)) h
    have hk : 58 ^ k ≤ x / 58 := (Nat.le_div_iff_mul_le (by decide)).mpr h
    rw [Nat.digits_def' (by decide) hpos, List.map_cons, ← emitN_append_digits k (x / 58) hk,
      Nat.div_div_eq_div_mul, Nat.pow_succ, Nat.mul_comm 58]
    rfl

theorem encodeLoop_eq : ∀ (f x : Nat), x ≤ f → encodeLoop f x = (Nat.digits 58 x).map alpha
  | 0, x, h => by obtain rfl := Nat.le_zero.mp h; rfl
  | f + 1, x, h => by
    simp only [encodeLoop]
    split_ifs with h0 hq
    · rw [h0]; rfl
    · have hlt : x < radix10 := (Nat.div_eq_zero_iff.mp hq).resolve_left (by decide)
      rw [Nat.mod_eq_of_lt hlt, emitWhile_eq, ← digitsLE, digitsLE_eq (by decide)]
    · have hge : radix10 ≤ x := Nat.le_of_not_lt fun hlt => hq (Nat.div_eq_of_lt hlt)
      have hqlt : x / radix10 < x := Nat.div_lt_self (Nat.pos_of_ne_zero h0) (by decide)
      rw [encodeLoop_eq f _ (by omega), radix10, emitN_mod, emitN_append_digits 10 x hge]

theorem encode_eq_conv (b : Bytes) : encode b = (conv 256 58 (b.map UInt8.toNat)).map alpha := by
  unfold encode conv
  simp only []
  rw [encodeLoop_eq _ _ (Nat.le_refl _), List.reverse_append, List.reverse_replicate, ← List.map_reverse,
    List.map_append, List.map_replicate, alpha_zero, leadingCount_zero, bytesToNat_eq]

theorem chunkTotal_eq : ∀ (l : Bytes) (t : Nat), Valid l →
    chunkTotal t l = some ((l.map b58).foldl (fun a d => a * 58 + d) t)
  | [], _, _ => rfl
  | v :: r, t, h => by
    rw [chunkTotal, if_neg (valid_cons.mp h).1]
    exact chunkTotal_eq r _ (valid_cons.mp h).2

theorem chunkTotal_none : ∀ (l : Bytes) (t : Nat), ¬ Valid l → chunkTotal t l = none
  | [], _, h => absurd (fun _ hc => nomatch hc) h
  | v :: r, t, h => by
    rw [chunkTotal]
    split_ifs with hv
    · rfl
    · exact chunkTotal_none r _ fun hr => h (valid_cons.mpr ⟨hv, hr⟩)

theorem chunkTotal_append : ∀ (l r : Bytes) (t : Nat),
    chunkTotal t (l ++ r) = (chunkTotal t l).bind (chunkTotal · r)
  | [], _, _ => rfl
  | v :: l, r, t => by
    simp only [List.cons_append, chunkTotal]
    split
    · rfl
    · exact chunkTotal_append l r _

theorem chunkTotal_shift : ∀ (l : Bytes) (t : Nat),
    chunkTotal t l = (chunkTotal 0 l).map (t * 58 ^ l.length + ·)
  | [], t => by simp [chunkTotal]
  | v :: l, t => by
    simp only [chunkTotal, List.length_cons]
    split
    · rfl
    · rw [chunkTotal_shift l (t * 58 + b58 v), chunkTotal_shift l (0 * 58 + b58 v), Option.map_map]
      congr 1
      funext x
      simp only [Function.comp]
      ring

/-- Whatever follows a non-ASCII lead byte, the decoded rune is ≥ U+0080: the bounds on the
    first continuation byte exclude the over-long forms. -/
theorem decodeRune_ge (s0 : Nat) (rest : List Nat) : 128 ≤ (decodeRune s0 rest).1 := by
  fun_cases decodeRune s0 rest
  -- seven of the ten branches return U+FFFD
  all_goals try exact (by decide : 128 ≤ 0xFFFD)
  -- left, in the order of the definition: the accepted two-, three- and four-byte forms
  · dsimp only; omega
  · next lo hi _ _ _ h =>
    have : 128 ≤ lo ∧ (s0 = 224 → lo = 160) ∧ hi ≤ 191 := by
      dsimp only [lo, hi]; split <;> split <;> omega
    dsimp only; omega
  · next lo hi _ _ _ _ h =>
    have : 128 ≤ lo ∧ (s0 = 240 → lo = 144) ∧ hi ≤ 191 := by
      dsimp only [lo, hi]; split <;> split <;> omega
    dsimp only; omega

theorem chunkRunes_eq : ∀ (f total : Nat) (l : Bytes), l.length ≤ f → chunkRunes f total l = chunkTotal total l
  | 0, total, l, h => by
    obtain rfl := List.length_eq_zero_iff.mp (Nat.le_zero.mp h)
    rfl
  | f + 1, total, [], _ => rfl
  | f + 1, total, c :: r, h => by
    simp only [List.length_cons] at h
    simp only [chunkRunes, chunkTotal]
    by_cases hc : c.toNat < 0x80
    · have hle : ¬ c.toNat > 255 := by omega
      have hb : b58Rune c.toNat = b58 c := by simp [b58Rune]
      simp only [hc, if_true, hle, if_false, hb, Nat.sub_self, List.drop_zero]
      split_ifs
      · rfl
      · exact chunkRunes_eq f _ r (by omega)
    · have hge : 128 ≤ c.toNat := by omega
      rw [if_pos (b58_high c hge)]
      simp only [hc, if_false]
      have hv := decodeRune_ge c.toNat (r.map UInt8.toNat)
      generalize decodeRune c.toNat (r.map UInt8.toNat) = vw at hv
      obtain ⟨v, w⟩ := vw
      simp only at hv ⊢
      by_cases hv2 : v > 255
      · simp [hv2]
      · have hb : b58Rune v = 255 := b58_high _ (by rw [UInt8.toNat_ofNat_of_lt' (Nat.lt_of_not_le hv2)]; exact hv)
        simp [hv2, hb]

theorem decodeLoop_eq : ∀ (f : Nat) (t : Bytes) (ans : Nat), t.length ≤ f →
    decodeLoop f t ans = chunkTotal ans t
  | 0, t, ans, h => by
    obtain rfl := List.length_eq_zero_iff.mp (Nat.le_zero.mp h)
    rfl
  | f + 1, [], ans, _ => rfl
  | f + 1, c :: r, ans, h => by
    simp only [decodeLoop]
    have hn : 0 < min (c :: r).length 10 := by simp only [List.length_cons]; omega
    generalize c :: r = t at h hn ⊢
    generalize hk : min t.length 10 = n at hn
    have hlen : (t.take n).length = n := by rw [List.length_take]; omega
    rw [chunkRunes_eq _ _ _ (Nat.le_of_eq hlen)]
    conv_rhs => rw [← List.take_append_drop n t, chunkTotal_append, chunkTotal_shift, hlen]
    cases chunkTotal 0 (t.take n) with
    | none => rfl
    | some total =>
      dsimp only [Option.map_some, Option.bind_some]
      rw [decodeLoop_eq f _ _ (by rw [List.length_drop]; omega), bigRadix, if_neg (Nat.ne_of_gt hn)]

theorem decode?_eq_conv (s : Bytes) (h : Valid s) :
    decode? s = some ((conv 58 256 (s.map b58)).map Nat.toUInt8) := by
  unfold decode? conv
  rw [decodeLoop_eq _ _ _ (Nat.le_refl _), chunkTotal_eq _ _ h]
  simp only []
  rw [natToBytes_eq, leadingCount_idx0 s h, List.map_append, List.map_replicate]
  rfl

theorem decode_eq_conv (s : Bytes) (h : Valid s) : decode s = (conv 58 256 (s.map b58)).map Nat.toUInt8 := by
  unfold decode
  rw [decode?_eq_conv s h]
  rfl

theorem decode?_none (s : Bytes) (h : ¬ Valid s) : decode? s = none := by
  unfold decode?
  rw [decodeLoop_eq _ _ _ (Nat.le_refl _), chunkTotal_none _ _ h]

end Mixin.Base58
