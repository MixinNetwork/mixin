import Mixin.Model.Cosi
import Mixin.Proofs.Basics
import Mathlib.Data.Nat.ModEq
import Mathlib.Data.List.Perm.Basic
import Mathlib.Algebra.BigOperators.Group.List.Basic
import Mathlib.Tactic.Ring
/-!
Helper lemmas about `Mixin.Cosi`, shared by the C13, C14 and C02 batch property files.
-/
namespace Mixin.Cosi

theorem ell_pos : 0 < ell := by decide

theorem decode_dl_eq_some_iff {e d : Nat} : (Pt.dl e).decode = some d ↔ d = e % ell ∧ d ≠ 0 := by
  rw [Pt.decode]
  by_cases h0 : e % ell = 0
  · rw [if_pos h0, h0]
    exact ⟨nofun, fun h => absurd h.1 h.2⟩
  · rw [if_neg h0, Option.some.injEq, eq_comm]
    exact ⟨fun h => ⟨h, h ▸ h0⟩, fun h => h.1⟩

theorem decode_dl (d : Nat) (h : d % ell ≠ 0) : (Pt.dl d).decode = some (d % ell) :=
  decode_dl_eq_some_iff.2 ⟨rfl, h⟩

theorem decode_dl_zero (d : Nat) (h : d % ell = 0) : (Pt.dl d).decode = none := by
  simp [Pt.decode, h]

theorem mem_keys {m i : Nat} : i ∈ keys m ↔ i < 64 ∧ m.testBit i = true := by
  simp [keys, List.mem_filter, List.mem_range]

theorem keys_pairwise (m : Nat) : (keys m).Pairwise (· < ·) :=
  List.Pairwise.filter _ List.pairwise_lt_range

theorem keys_nodup (m : Nat) : (keys m).Nodup :=
  (keys_pairwise m).imp (fun h => Nat.ne_of_lt h)

theorem keys_zero : keys 0 = [] := by decide

/-- discrete log of the `i`-th key: `dlOf` of `publics[i]` (0 when it is refused or missing) -/
def dlAt (publics : List Pt) (i : Nat) : Nat := ((publics.getD i Pt.bad).decode).getD 0

/-- a strictly increasing list above `prev` is a head above `prev` and a strictly increasing tail
    above the head: the shape in which the loop of `collectAggregateSigners` checks it -/
theorem increasing_cons {P : Int → Prop} (prev i : Int) (rest : List Int) :
    ((i :: rest).Pairwise (· < ·) ∧ ∀ j ∈ i :: rest, prev < j ∧ P j) ↔
      (prev < i ∧ P i) ∧ rest.Pairwise (· < ·) ∧ ∀ j ∈ rest, i < j ∧ P j := by
  rw [List.pairwise_cons, List.forall_mem_cons]
  constructor
  · rintro ⟨⟨hlt, hp⟩, hi, hall⟩
    exact ⟨hi, hp, fun j hj => ⟨hlt j hj, (hall j hj).2⟩⟩
  · rintro ⟨hi, hp, hall⟩
    exact ⟨⟨fun j hj => (hall j hj).1, hp⟩, hi,
      fun j hj => ⟨Int.lt_trans hi.1 (hall j hj).1, (hall j hj).2⟩⟩

theorem collectGo_eq_some_iff (publics : List Pt) (prev : Int) (l : List Int)
    (sel : List (Nat × Nat)) :
    collectGo publics prev l = some sel ↔
      (l.Pairwise (· < ·) ∧ ∀ i ∈ l, prev < i ∧ i < (publics.length : Int) ∧
        (publics.getD i.toNat Pt.bad).decode ≠ none) ∧
      sel = l.map (fun i => (i.toNat, dlAt publics i.toNat)) := by
  induction l generalizing prev sel with
  | nil =>
    exact ⟨fun h => ⟨⟨List.Pairwise.nil, List.forall_mem_nil _⟩, (Option.some.inj h).symm⟩,
      fun h => congrArg some h.2.symm⟩
  | cons i rest ih =>
    unfold collectGo
    rw [increasing_cons, List.map_cons]
    by_cases h1 : i ≤ prev
    · rw [if_pos h1]
      exact ⟨nofun, fun h => absurd h.1.1.1 (Int.not_lt.2 h1)⟩
    by_cases h2 : i ≥ (publics.length : Int)
    · rw [if_neg h1, if_pos h2]
      exact ⟨nofun, fun h => absurd h.1.1.2.1 (Int.not_lt.2 h2)⟩
    rw [if_neg h1, if_neg h2, dlAt]
    cases (publics.getD i.toNat Pt.bad).decode with
    | none => exact ⟨nofun, fun h => absurd rfl h.1.1.2.2⟩
    | some d =>
      dsimp only
      cases hr : collectGo publics i rest with
      | none => exact ⟨nofun, fun h => nomatch hr.symm.trans ((ih i _).2 ⟨h.1.2, rfl⟩)⟩
      | some sel' =>
        obtain ⟨hrest, rfl⟩ := (ih i sel').1 hr
        exact ⟨fun h => ⟨⟨⟨Int.not_le.1 h1, Int.not_le.1 h2, Option.some_ne_none d⟩, hrest⟩,
          (Option.some.inj h).symm⟩, fun h => congrArg some h.2.symm⟩

theorem collectSigners_eq_some_iff (publics : List Pt) (signers : List Int)
    (sel : List (Nat × Nat)) :
    collectSigners publics signers = some sel ↔
      (signers ≠ [] ∧ signers.Pairwise (· < ·) ∧
        ∀ i ∈ signers, 0 ≤ i ∧ i < (publics.length : Int) ∧
          (publics.getD i.toNat Pt.bad).decode ≠ none) ∧
      sel = signers.map (fun i => (i.toNat, dlAt publics i.toNat)) := by
  unfold collectSigners
  cases signers with
  | nil => exact ⟨nofun, fun h => absurd rfl h.1.1⟩
  | cons a t =>
    rw [List.isEmpty_cons, if_neg Bool.false_ne_true, collectGo_eq_some_iff,
      and_iff_right (List.cons_ne_nil a t)]
    -- the loop starts with `prev = -1`
    simp only [show ∀ i : Int, -1 < i ↔ 0 ≤ i from fun i => by omega]

theorem collectSigners_eq_none_iff (publics : List Pt) (signers : List Int) :
    collectSigners publics signers = none ↔
      signers = [] ∨ ¬ signers.Pairwise (· < ·) ∨
        ∃ i ∈ signers, i < 0 ∨ (publics.length : Int) ≤ i ∨
          (publics.getD i.toNat Pt.bad).decode = none := by
  rw [← Option.not_isSome_iff_eq_none, Option.isSome_iff_exists]
  simp only [collectSigners_eq_some_iff, exists_eq_right, not_and_or, not_forall, not_not,
    Int.not_le, Int.not_lt, exists_prop, Ne]

theorem add_mul_mod (r x a : Nat) : (r % ell + x * (a % ell)) % ell = (r + x * a) % ell :=
  Nat.ModEq.add (Nat.mod_modEq r ell) (Nat.ModEq.mul_left x (Nat.mod_modEq a ell))

/-- left-to-right sum reduced after every addition, as the Go loops accumulate scalars -/
def sumMod (acc : Nat) (l : List Nat) : Nat := l.foldl (fun a d => (a + d) % ell) acc

theorem sumMod_mod (acc : Nat) (l : List Nat) : sumMod acc l % ell = (acc + l.sum) % ell := by
  induction l generalizing acc with
  | nil => exact Nat.mod_mod _ _ ▸ rfl
  | cons d t ih =>
    rw [sumMod, List.foldl_cons, ← sumMod, ih, List.sum_cons, Nat.mod_add_mod, Nat.add_assoc]

theorem sumMod_lt (acc : Nat) (l : List Nat) (h : acc < ell) : sumMod acc l < ell := by
  induction l generalizing acc with
  | nil => exact h
  | cons d t ih => exact ih _ (Nat.mod_lt _ ell_pos)

theorem sumDl_eq (sel : List (Nat × Nat)) : sumDl sel = sumMod 0 (sel.map (·.2)) := by
  rw [sumDl, sumMod, List.foldl_map]

theorem sumDl_map_mod (l : List Nat) (f : Nat → Nat) :
    sumDl (l.map fun k => (k, f k)) % ell = (l.map f).sum % ell := by
  rw [sumDl_eq, sumMod_mod, Nat.zero_add, List.map_map]
  rfl

theorem shares_sum_mod {α : Type} (l : List α) (a r : α → Nat) (x : Nat) :
    (l.map (fun q => (x * a q + r q) % ell)).sum % ell =
      ((l.map r).sum % ell + x * ((l.map a).sum % ell)) % ell := by
  rw [add_mul_mod]
  induction l with
  | nil => rfl
  | cons q t ih =>
    simp only [List.map_cons, List.sum_cons]
    rw [Nat.add_mod, Nat.mod_mod, ← Nat.add_mod, Nat.add_mod, ih, ← Nat.add_mod]
    congr 1
    ring

theorem verifyWithChallenge_iff (A R : Pt) (s x : Nat) :
    verifyWithChallenge A R s x = true ↔
      ∃ a r, A.decode = some a ∧ R.decode = some r ∧ s < ell ∧ s = (r + x * a) % ell := by
  unfold verifyWithChallenge
  cases hA : A.decode with
  | none => simp
  | some a =>
    cases hR : R.decode with
    | none => simp
    | some r =>
      simp only [Bool.and_eq_true, decide_eq_true_eq, Option.some.injEq, exists_and_left,
        exists_eq_left']
      exact and_congr_right fun h => by rw [Nat.mod_eq_of_lt h]

theorem verifyWithChallenge_dl_iff (d : Nat) (R : Pt) (s x : Nat) :
    verifyWithChallenge (Pt.dl d) R s x = true ↔
      ∃ A r, A = d % ell ∧ A ≠ 0 ∧ R.decode = some r ∧ s < ell ∧ s = (r + x * A) % ell := by
  simp only [verifyWithChallenge_iff, decode_dl_eq_some_iff, and_assoc]

/-- the entries of a Go `map[int]*Key` whose indexes are natural numbers -/
def castIdx (q : Nat × Pt) : Int × Pt := ((q.1 : Int), q.2)

/-- mask after marking the indexes of `rs`: `cosi.Mask ^= (1 << uint64(i))` for each of them -/
def maskOf : List (Nat × Pt) → Nat → Nat
  | [], m => m
  | (i, _) :: rest, m => maskOf rest (m ^^^ (1 <<< i))

/-- marking is an XOR, so marking an index twice would clear its bit again: bit `j` is set exactly
    when `j` is marked only if no index repeats -/
theorem testBit_maskOf (rs : List (Nat × Pt)) (hnd : (rs.map (·.1)).Nodup) (m j : Nat) :
    (maskOf rs m).testBit j = (m.testBit j ^^ decide (j ∈ rs.map (·.1))) := by
  induction rs generalizing m with
  | nil => simp [maskOf]
  | cons q rest ih =>
    obtain ⟨i, R⟩ := q
    rw [List.map_cons, List.nodup_cons] at hnd
    rw [maskOf, ih hnd.2, Nat.testBit_xor, Nat.one_shiftLeft, Nat.testBit_two_pow]
    simp only [List.map_cons, List.mem_cons]
    by_cases hij : i = j
    · subst hij
      -- `i` is marked now and, by `Nodup`, never again
      simp [show i ∉ rest.map (·.1) from hnd.1]
    · simp [hij, show ¬ j = i from fun h => hij h.symm]

theorem mem_keys_maskOf (rs : List (Nat × Pt)) (hnd : (rs.map (·.1)).Nodup)
    (h64 : ∀ q ∈ rs, q.1 < 64) (j : Nat) :
    j ∈ keys (maskOf rs 0) ↔ j ∈ rs.map (·.1) := by
  rw [mem_keys, testBit_maskOf rs hnd]
  simp only [Nat.zero_testBit, Bool.false_bne, decide_eq_true_eq]
  refine and_iff_right_of_imp fun h => ?_
  obtain ⟨q, hq, rfl⟩ := List.mem_map.1 h
  exact h64 q hq

theorem keys_maskOf_perm (rs : List (Nat × Pt)) (hnd : (rs.map (·.1)).Nodup)
    (h64 : ∀ q ∈ rs, q.1 < 64) : (keys (maskOf rs 0)).Perm (rs.map (·.1)) :=
  (List.perm_ext_iff_of_nodup (keys_nodup _) hnd).2 (mem_keys_maskOf rs hnd h64)

/-- discrete log of a point, key or commitment (0 when it is refused) -/
def dlOf (P : Pt) : Nat := P.decode.getD 0

theorem commitLoop_ok (rs : List (Nat × Pt)) (hdec : ∀ q ∈ rs, q.2.decode ≠ none)
    (h64 : ∀ q ∈ rs, q.1 < 64) (p m : Nat) (cs : List (Int × Pt)) :
    commitLoop (rs.map castIdx) p m cs =
      some (sumMod p (rs.map (fun q => dlOf q.2)), maskOf rs m, cs ++ rs.map castIdx) := by
  induction rs generalizing p m cs with
  | nil => rw [List.map_nil, List.append_nil]; rfl
  | cons q rest ih =>
    obtain ⟨i, R⟩ := q
    obtain ⟨r, hd⟩ := Option.ne_none_iff_exists'.1 (hdec (i, R) List.mem_cons_self)
    have hi : ¬ (((i : Nat) : Int) ≥ 64 ∨ ((i : Nat) : Int) < 0) := by
      have := h64 (i, R) List.mem_cons_self
      omega
    rw [List.map_cons]
    show commitLoop ((((i : Nat) : Int), R) :: rest.map castIdx) p m cs = _
    unfold commitLoop
    rw [show R.decode = some r from hd]
    dsimp only
    rw [if_neg hi, ih (fun q hq => hdec q (List.mem_cons_of_mem _ hq))
      (fun q hq => h64 q (List.mem_cons_of_mem _ hq)), List.append_assoc]
    simp only [castIdx, Int.toNat_natCast, List.map_cons, dlOf, hd, Option.getD_some, sumMod,
      List.foldl_cons, maskOf, List.singleton_append]

theorem good_of_commitLoop (rs : List (Int × Pt)) (p m : Nat) (cs : List (Int × Pt))
    (r : Nat × Nat × List (Int × Pt)) (h : commitLoop rs p m cs = some r) :
    ∀ q ∈ rs, q.2.decode ≠ none ∧ 0 ≤ q.1 ∧ q.1 < 64 := by
  induction rs generalizing p m cs with
  | nil => exact List.forall_mem_nil _
  | cons q rest ih =>
    obtain ⟨i, R⟩ := q
    unfold commitLoop at h
    cases hd : R.decode with
    | none => rw [hd] at h; cases h
    | some d =>
      rw [hd] at h
      obtain ⟨hi, h⟩ := of_ite_eq h nofun
      rw [not_or, Int.not_le, Int.not_lt] at hi
      exact List.forall_mem_cons.2 ⟨⟨hd ▸ Option.some_ne_none d, hi.2, hi.1⟩, ih _ _ _ h⟩

theorem lookup_of_mem_nodup {β : Type} (l : List (Int × β)) (hnd : (l.map (·.1)).Nodup)
    (k : Int) (v : β) (h : (k, v) ∈ l) : l.lookup k = some v := by
  obtain ⟨s, t, rfl⟩ := List.append_of_mem h
  rw [List.map_append, List.nodup_append] at hnd
  exact List.lookup_eq_some_iff.mpr ⟨s, t, rfl, fun p hp =>
    bne_iff_ne.mpr fun e => hnd.2.2 p.1 (List.mem_map_of_mem hp) k List.mem_cons_self e.symm⟩

theorem nodup_natCast_fst {β : Type} {rs : List (Nat × β)} (h : (rs.map (·.1)).Nodup) :
    (rs.map fun q => (q.1 : Int)).Nodup :=
  List.pairwise_map.2 ((List.pairwise_map.1 h).imp fun hab e => hab (Int.natCast_inj.1 e))

theorem lookup_castIdx (rs : List (Nat × Pt)) (hnd : (rs.map (·.1)).Nodup) (q : Nat × Pt)
    (hq : q ∈ rs) : (rs.map castIdx).lookup (q.1 : Int) = some q.2 := by
  refine lookup_of_mem_nodup _ ?_ _ _ (List.mem_map_of_mem (f := castIdx) hq)
  rw [List.map_map]
  exact nodup_natCast_fst hnd

theorem collectSigners_keysInt (publics : List Pt) (m : Nat) (hne : keys m ≠ [])
    (h : ∀ k ∈ keys m, k < publics.length ∧ (publics.getD k Pt.bad).decode ≠ none) :
    collectSigners publics (keysInt m) = some ((keys m).map (fun k => (k, dlAt publics k))) := by
  rw [collectSigners_eq_some_iff, keysInt]
  refine ⟨⟨fun e => hne (List.map_eq_nil_iff.1 e), ?_, ?_⟩, ?_⟩
  · rw [List.pairwise_map]
    exact (keys_pairwise m).imp Int.ofNat_lt.2
  · intro i hi
    obtain ⟨k, hk, rfl⟩ := List.mem_map.1 hi
    exact ⟨Int.natCast_nonneg k, Int.ofNat_lt.2 (h k hk).1, (h k hk).2⟩
  · rw [List.map_map]
    rfl

theorem hasResponse_iff (responses : List (Int × Option Nat)) (i : Nat) :
    hasResponse responses i = true ↔ ∃ s, responses.lookup (i : Int) = some (some s) := by
  unfold hasResponse
  cases responses.lookup (Int.ofNat i) with
  | none => exact ⟨nofun, by rintro ⟨_, h⟩; cases h⟩
  | some o =>
    cases o with
    | none => exact ⟨nofun, by rintro ⟨_, h⟩; cases h⟩
    | some s => exact ⟨fun _ => ⟨s, rfl⟩, fun _ => rfl⟩

theorem responsesPresent_iff (mask : Nat) (publics : List Pt) (responses : List (Int × Option Nat)) :
    responsesPresent mask publics responses = true ↔
      ∀ k ∈ keys mask, k < publics.length ∧ ∃ s, responses.lookup (k : Int) = some (some s) := by
  simp only [responsesPresent, List.all_eq_true, Bool.and_eq_true, decide_eq_true_eq,
    hasResponse_iff]

theorem respLoop_eq_some_iff (c : Sig) (publics : List Pt) (x : Nat) (strict : Bool)
    (l : List (Int × Option Nat)) (acc S : Nat) :
    respLoop c publics x strict l acc = some S ↔
      (∀ q ∈ l, ∃ s R, q.2 = some s ∧ c.commitments.lookup q.1 = some R ∧ s < ell ∧
        (strict = true → verifyWithChallenge (publics.getD q.1.toNat Pt.bad) R s x = true)) ∧
      S = sumMod acc (l.map (fun q => q.2.getD 0)) := by
  induction l generalizing acc with
  | nil =>
    exact ⟨fun h => ⟨List.forall_mem_nil _, (Option.some.inj h).symm⟩, fun h => congrArg some h.2.symm⟩
  | cons q rest ih =>
    obtain ⟨i, so⟩ := q
    rw [List.forall_mem_cons]
    cases so with
    | none => exact ⟨nofun, by rintro ⟨⟨⟨_, _, h, _⟩, _⟩, _⟩; cases h⟩
    | some s =>
      unfold respLoop
      cases hR : c.commitments.lookup i with
      | none => exact ⟨nofun, by rintro ⟨⟨⟨_, _, _, h, _⟩, _⟩, _⟩; cases h⟩
      | some R =>
        have hn : (none : Option Nat) ≠ some S := nofun
        dsimp only
        rw [ite_eq_iff_of_ne hn, ite_eq_iff_of_ne hn, ih, Bool.and_eq_true, Bool.not_eq_true',
          not_and, Bool.not_eq_false, Nat.not_le]
        simp only [Option.some.injEq, exists_and_left, exists_eq_left']
        constructor
        · rintro ⟨hv, hlt, hall, hS⟩
          exact ⟨⟨⟨hlt, hv⟩, hall⟩, hS⟩
        · rintro ⟨⟨⟨hlt, hv⟩, hall⟩, hS⟩
          exact ⟨hv, hlt, hall, hS⟩

theorem aggregateResponse_eq_some_iff (c : Sig) (publics : List Pt)
    (responses : List (Int × Option Nat)) (x : Nat) (strict : Bool) (c' : Sig) :
    aggregateResponse c publics responses x strict = some c' ↔
      responsesPresent c.mask publics responses = true ∧
      (keys c.mask).length = responses.length ∧ challengeOk c publics = true ∧
      ∃ S, respLoop c publics x strict responses 0 = some S ∧ c' = { c with S := S } := by
  unfold aggregateResponse
  have hn : (none : Option Sig) ≠ some c' := nofun
  rw [ite_eq_iff_of_ne hn, ite_eq_iff_of_ne hn, ite_eq_iff_of_ne hn, Bool.not_eq_true,
    Bool.not_eq_false', Bool.not_eq_true, Bool.not_eq_false', not_not]
  refine and_congr_right fun _ => and_congr_right fun _ => and_congr_right fun _ => ?_
  cases respLoop c publics x strict responses 0 with
  | none => exact ⟨nofun, by rintro ⟨_, h, _⟩; cases h⟩
  | some S =>
    exact ⟨fun h => ⟨S, rfl, (Option.some.inj h).symm⟩, by rintro ⟨_, h, rfl⟩; cases h; rfl⟩

end Mixin.Cosi
