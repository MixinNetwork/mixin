import Mixin.Model.Mint
import Mixin.Proofs.Basics
import Mixin.Proofs.Amount
/-! Helper lemmas for C25 (mint schedule): total versions of the partial model functions. -/
namespace Mixin.Mint
open Mixin.Amount

theorem yearOf_eq (P : Params) (p : Nat) : yearOf P p = p * P.num / P.den := rfl

theorem yearOf_mono (P : Params) {p q : Nat} (h : p ≤ q) : yearOf P p ≤ yearOf P q := by
  simp only [yearOf_eq]
  exact Nat.div_le_div_right (Nat.mul_le_mul_right _ h)

theorem yearOf_le (P : Params) (hden : 0 < P.den) (hnum : P.num ≤ P.den) (p : Nat) : yearOf P p ≤ p := by
  simp only [yearOf_eq]
  calc p * P.num / P.den ≤ p * P.den / P.den := Nat.div_le_div_right (Nat.mul_le_mul_left _ hnum)
    _ = p := Nat.mul_div_cancel _ hden

/-- total pool after `n` years (truncated subtraction) -/
def poolT (P : Params) : Nat → Nat → Nat
  | 0, p => p
  | n + 1, p => poolT P n (p - yearOf P p)

theorem poolAfter_some {P : Params} : ∀ {n p q : Nat}, poolAfter P n p = some q → q = poolT P n p
  | 0, p, q, h => (Option.some.inj h).symm
  | n + 1, p, q, h => by
    simp only [poolAfter] at h
    split at h
    · cases h
    · next r hr =>
      have := sub_some hr
      rw [poolT, ← this.2.2]
      exact poolAfter_some h

theorem poolT_le (P : Params) : ∀ (n p : Nat), poolT P n p ≤ p
  | 0, p => Nat.le_refl _
  | n + 1, p => Nat.le_trans (poolT_le P n _) (Nat.sub_le _ _)

theorem poolT_succ (P : Params) : ∀ (n p : Nat), poolT P (n + 1) p = poolT P n p - yearOf P (poolT P n p)
  | 0, p => rfl
  | n + 1, p => by
    rw [poolT, poolT_succ P n]
    rfl

theorem poolT_antitone (P : Params) (p : Nat) {n m : Nat} (h : n ≤ m) : poolT P m p ≤ poolT P n p := by
  induction h with
  | refl => exact Nat.le_refl _
  | step _ ih => rw [poolT_succ]; exact Nat.le_trans (Nat.sub_le _ _) ih

theorem poolAfter_prefix {P : Params} : ∀ {n m p : Nat}, n ≤ m → (poolAfter P m p).isSome → (poolAfter P n p).isSome
  | 0, _, _, _, _ => by simp [poolAfter]
  | n + 1, 0, _, h, _ => by omega
  | n + 1, m + 1, p, h, hm => by
    simp only [poolAfter] at hm ⊢
    split
    · next hr => simp [hr] at hm
    · next r hr =>
      simp only [hr] at hm
      exact poolAfter_prefix (Nat.le_of_succ_le_succ h) hm

/-- total daily amount of batch `b` -/
def batchT (P : Params) (b : Nat) : Nat := yearOf P (poolT P (b / P.days) P.pool) / P.days

theorem mintBatchSize_eq_some {P : Params} {b x : Nat} : mintBatchSize P b = some x ↔
    b / P.days ≤ P.maxYears ∧ 0 < P.days ∧ (poolAfter P (b / P.days) P.pool).isSome ∧ x = batchT P b := by
  unfold mintBatchSize batchT
  simp only
  constructor
  · intro h
    split at h
    · cases h
    · split at h
      · cases h
      · next hq =>
        have := div_some h
        rw [← poolAfter_some hq, this.2, hq]
        exact ⟨by omega, by omega, rfl, rfl⟩
  · rintro ⟨hy, hd, hq, rfl⟩
    obtain ⟨q, hq⟩ := Option.isSome_iff_exists.mp hq
    rw [if_neg (by omega), ← poolAfter_some hq, hq]
    exact if_neg (by omega)

theorem mintBatchSize_some {P : Params} {b x : Nat} (h : mintBatchSize P b = some x) : x = batchT P b :=
  (mintBatchSize_eq_some.mp h).2.2.2

theorem batchT_antitone (P : Params) {b b' : Nat} (h : b ≤ b') : batchT P b' ≤ batchT P b := by
  unfold batchT
  apply Nat.div_le_div_right
  apply yearOf_mono
  exact poolT_antitone P _ (Nat.div_le_div_right h)

/-- value of a batch, `0` where the Go code panics -/
def batchVal (P : Params) (b : Nat) : Nat := (mintBatchSize P b).getD 0

theorem batchVal_le (P : Params) (b : Nat) : batchVal P b ≤ batchT P b := by
  unfold batchVal
  cases h : mintBatchSize P b with
  | none => simp
  | some x => simp [mintBatchSize_some h]

/-- cumulative amount of the batches `0 … n-1` -/
def cum (f : Nat → Nat) : Nat → Nat
  | 0 => 0
  | n + 1 => cum f n + f n

theorem cum_le_cum {f g : Nat → Nat} (h : ∀ i, f i ≤ g i) : ∀ n, cum f n ≤ cum g n
  | 0 => Nat.le_refl _
  | n + 1 => Nat.add_le_add (cum_le_cum h n) (h n)

theorem cum_mono (f : Nat → Nat) {n m : Nat} (h : n ≤ m) : cum f n ≤ cum f m := by
  induction h with
  | refl => exact Nat.le_refl _
  | step _ ih => exact Nat.le_trans ih (Nat.le_add_right _ _)

theorem cum_const_range (f : Nat → Nat) (c : Nat) : ∀ (a k : Nat), (∀ i, a ≤ i → i < a + k → f i = c) →
    cum f (a + k) = cum f a + k * c
  | a, 0, _ => by simp
  | a, k + 1, h => by
    rw [← Nat.add_assoc, cum, cum_const_range f c a k (fun i h1 h2 => h i h1 (by omega)),
      h (a + k) (by omega) (by omega), Nat.add_mul]
    omega

theorem batchT_in_year (P : Params) (Y i : Nat) (h1 : Y * P.days ≤ i) (h2 : i < Y * P.days + P.days) :
    batchT P i = yearOf P (poolT P Y P.pool) / P.days := by
  have : i / P.days = Y := Nat.div_eq_of_lt_le h1 (by rw [Nat.succ_mul]; exact h2)
  simp [batchT, this]

theorem cum_years (P : Params) (hden : 0 < P.den) (hnum : P.num ≤ P.den) :
    ∀ Y, cum (batchT P) (Y * P.days) + poolT P Y P.pool ≤ P.pool
  | 0 => by simp [cum, poolT]
  | Y + 1 => by
    have ih := cum_years P hden hnum Y
    have hc := cum_const_range (batchT P) (yearOf P (poolT P Y P.pool) / P.days) (Y * P.days) P.days
      (batchT_in_year P Y)
    have hy := yearOf_le P hden hnum (poolT P Y P.pool)
    have hm := Nat.mul_div_le (yearOf P (poolT P Y P.pool)) P.days
    rw [Nat.succ_mul, hc, poolT_succ]
    omega

theorem cum_batchT_le_pool (P : Params) (hd : 0 < P.days) (hden : 0 < P.den) (hnum : P.num ≤ P.den) (n : Nat) :
    cum (batchT P) n ≤ P.pool :=
  calc cum (batchT P) n ≤ cum (batchT P) ((n / P.days + 1) * P.days) :=
        cum_mono _ (Nat.le_of_lt (by rw [Nat.mul_comm]; exact Nat.lt_mul_div_succ n hd))
    _ ≤ P.pool := Nat.le_trans (Nat.le_add_right _ _) (cum_years P hden hnum _)

/-- `f i + f (i+1) + … + f (i+k-1)` -/
def sumFrom (f : Nat → Nat) : Nat → Nat → Nat
  | _, 0 => 0
  | i, k + 1 => f i + sumFrom f (i + 1) k

theorem cum_add_sumFrom (f : Nat → Nat) : ∀ (k i : Nat), cum f (i + k) = cum f i + sumFrom f i k
  | 0, i => by simp [sumFrom]
  | k + 1, i => by
    have := cum_add_sumFrom f k (i + 1)
    rw [show i + (k + 1) = i + 1 + k by omega, this, cum, sumFrom]
    omega

def PosBatch (P : Params) (b : Nat) : Prop := ∃ x, 0 < x ∧ mintBatchSize P b = some x

theorem multiLoop_succ (P : Params) (cnt i acc s : Nat) : multiLoop P (cnt + 1) i acc = some s ↔
    PosBatch P i ∧ multiLoop P cnt (i + 1) (acc + batchVal P i) = some s := by
  rw [multiLoop, batchVal, PosBatch]
  cases mintBatchSize P i with
  | none => simp
  | some x =>
    by_cases hx : x = 0
    · simp [add, hx]
    · simp [add, hx, Nat.pos_of_ne_zero hx]

theorem multiLoop_some_iff (P : Params) : ∀ (cnt i acc s : Nat),
    multiLoop P cnt i acc = some s ↔
      (∀ j, j < cnt → PosBatch P (i + j)) ∧ s = acc + sumFrom (batchVal P) i cnt
  | 0, i, acc, s => by simp [multiLoop, sumFrom, eq_comm]
  | cnt + 1, i, acc, s => by
    rw [multiLoop_succ, multiLoop_some_iff P cnt, Nat.forall_lt_succ_left, sumFrom, and_assoc]
    simp only [Nat.add_zero, Nat.add_assoc, Nat.add_comm 1]

def workT (p : Nat × Nat) : Nat := ofUint p.1 * 120 / 100 + ofUint p.2

theorem workOf_eq (l s : Nat) : workOf l s = some (workT (l, s)) := by
  unfold workOf workT
  have h1 : mul (ofUint l) 120 = some (ofUint l * 120) := by simp [mul]
  have h2 : div (ofUint l * 120) 100 = some (ofUint l * 120 / 100) := by simp [div]
  rw [h1]; simp only; rw [h2]; simp only
  rcases Nat.eq_zero_or_pos s with rfl | hs
  · rw [if_neg (Nat.lt_irrefl 0), show ofUint 0 = 0 from Nat.zero_mul _, Nat.add_zero]
  · rw [if_pos hs]
    exact if_neg (Nat.ne_of_gt (Nat.mul_pos hs (Nat.pow_pos (by decide))))

theorem worksOf_eq : ∀ (works : List (Nat × Nat)), worksOf works = some (works.map workT)
  | [] => rfl
  | (l, s) :: rest => by
    rw [worksOf, workOf_eq, worksOf_eq rest]; rfl

/-- total version of `adjust` -/
def adjT (avg w : Nat) : Nat :=
  if w ≥ avg * 7 then avg * 2
  else if w ≥ avg then w / 6 + avg * 5 / 6
  else if w ≤ avg / 7 then avg / 7
  else w

theorem adjT_cases (avg w : Nat) :
    (avg * 7 ≤ w ∧ adjT avg w = avg * 2) ∨
    (avg ≤ w ∧ w < avg * 7 ∧ adjT avg w = w / 6 + avg * 5 / 6) ∨
    (w < avg ∧ w ≤ avg / 7 ∧ adjT avg w = avg / 7) ∨
    (w < avg ∧ avg / 7 < w ∧ adjT avg w = w) := by
  unfold adjT
  by_cases h1 : w ≥ avg * 7
  · exact .inl ⟨h1, if_pos h1⟩
  · rw [if_neg h1]
    by_cases h2 : w ≥ avg
    · exact .inr (.inl ⟨h2, Nat.lt_of_not_le h1, if_pos h2⟩)
    · rw [if_neg h2]
      by_cases h3 : w ≤ avg / 7
      · exact .inr (.inr (.inl ⟨Nat.lt_of_not_le h2, h3, if_pos h3⟩))
      · exact .inr (.inr (.inr ⟨Nat.lt_of_not_le h2, Nat.lt_of_not_le h3, if_neg h3⟩))

theorem adjust_some {avg w a : Nat} (h : adjust avg w = some a) : a = adjT avg w := by
  simp [adjust, mul, div] at h
  unfold adjT
  by_cases c1 : w ≥ avg * 7
  · rw [if_pos c1] at h ⊢; exact (Option.some.inj h).symm
  · rw [if_neg c1] at h ⊢
    by_cases c2 : w ≥ avg
    · rw [if_pos c2] at h ⊢; exact (add_some h).2
    · rw [if_neg c2] at h ⊢
      by_cases c3 : w ≤ avg / 7
      · rw [if_pos c3] at h ⊢; exact (Option.some.inj h).symm
      · rw [if_neg c3] at h ⊢; exact (Option.some.inj h).symm

/-- each branch is monotone in `w`, and the branches agree in order at their boundaries -/
theorem adjT_mono (avg : Nat) {w w' : Nat} (h : w ≤ w') : adjT avg w ≤ adjT avg w' := by
  have h1 := adjT_cases avg w
  have h2 := adjT_cases avg w'
  omega

theorem adjT_le (avg w : Nat) : adjT avg w ≤ 2 * avg := by
  have := adjT_cases avg w
  omega

theorem adjT_ge (avg w : Nat) : avg / 7 ≤ adjT avg w := by
  have := adjT_cases avg w
  omega

/-- total statistics of the first loop -/
def statStepT (s : Stats) (w : Nat) : Stats :=
  if w = 0 then s else
  ⟨s.valid + 1, (if s.minW = 0 then w else if w < s.minW then w else s.minW),
    (if w > s.maxW then w else s.maxW), s.totalW + w⟩

theorem statStep_some {s s' : Stats} {w : Nat} (h : statStep s w = some s') : s' = statStepT s w := by
  unfold statStep at h
  unfold statStepT
  by_cases hw : w = 0
  · rw [if_pos hw] at h ⊢; cases h; rfl
  · rw [if_neg hw] at h ⊢
    simp only at h
    cases hadd : add s.totalW w with
    | none => rw [hadd] at h; cases h
    | some t => rw [hadd] at h; have := add_some hadd; cases h; rw [this.2]

theorem statLoop_some : ∀ {ws : List Nat} {s s' : Stats}, statLoop ws s = some s' → s' = ws.foldl statStepT s
  | [], s, s', h => by rw [statLoop] at h; cases h; rfl
  | w :: ws, s, s', h => by
    rw [statLoop] at h
    split at h
    · cases h
    · next s1 h1 =>
      rw [List.foldl_cons, ← statStep_some h1]
      exact statLoop_some h

theorem shareLoop_some {base total : Nat} : ∀ {as ss : List Nat},
    shareLoop base total as = some ss → ss = as.map (fun a => base * a / total) ∧ (as ≠ [] → 0 < total)
  | [], ss, h => by rw [shareLoop] at h; cases h; exact ⟨rfl, fun h => absurd rfl h⟩
  | a :: as, ss, h => by
    rw [shareLoop] at h
    split at h
    · next r ss' hr hs =>
      have ih := shareLoop_some hs
      cases h
      unfold ration at hr
      split at hr
      · cases hr
      · next ht =>
        cases hr
        refine ⟨?_, fun _ => by omega⟩
        rw [List.map_cons, ← ih.1]
        simp only [Ratio.product]
    · cases h

theorem adjustLoop_some {avg : Nat} : ∀ {ws : List Nat} {tot : Nat} {as : List Nat} {t' : Nat},
    adjustLoop avg ws tot = some (as, t') → as = ws.map (adjT avg) ∧ t' = tot + as.sum ∧ ∀ a ∈ as, 0 < a
  | [], tot, as, t', h => by
    rw [adjustLoop] at h
    cases h
    exact ⟨rfl, rfl, fun a ha => absurd ha (List.not_mem_nil)⟩
  | w :: ws, tot, as, t', h => by
    rw [adjustLoop] at h
    split at h
    · cases h
    · next a ha =>
      split at h
      · cases h
      · next t ht =>
        split at h
        · cases h
        · next as' t'' hrec =>
          cases h
          obtain ⟨rfl, rfl, hpos⟩ := adjustLoop_some hrec
          obtain ⟨ha0, rfl⟩ := add_some ht
          obtain rfl := adjust_some ha
          exact ⟨rfl, by rw [List.sum_cons, Nat.add_assoc], List.forall_mem_cons.mpr ⟨ha0, hpos⟩⟩

def statT (works : List (Nat × Nat)) : Stats := (works.map workT).foldl statStepT ⟨0, 0, 0, 0⟩
def avgT (works : List (Nat × Nat)) : Nat :=
  ((statT works).totalW - (statT works).minW - (statT works).maxW) / ((statT works).valid - 2)

def adjWorks (works : List (Nat × Nat)) : List Nat := (works.map workT).map (adjT (avgT works))
def shareT (works : List (Nat × Nat)) (base : Nat) (a : Nat) : Nat := base * a / (adjWorks works).sum

theorem distributeByWorks_ok {works : List (Nat × Nat)} {base thr : Nat} {shares : List Nat}
    (h : distributeByWorks works base thr = .ok shares) :
    thr ≤ (statT works).valid ∧ 0 < avgT works ∧ (∀ a ∈ adjWorks works, 0 < a) ∧
      (works ≠ [] → 0 < (adjWorks works).sum) ∧ shares = (adjWorks works).map (shareT works base) := by
  unfold distributeByWorks at h
  rw [worksOf_eq] at h
  simp only at h
  split at h
  · cases h
  · next st hst =>
    obtain rfl : st = statT works := statLoop_some hst
    split at h
    · cases h
    · next hv =>
      split at h
      · cases h
      · next t1 h1 =>
        split at h
        · cases h
        · next t2 h2 =>
          split at h
          · cases h
          · next avg h3 =>
            split at h
            · cases h
            · next hz =>
              split at h
              · cases h
              · next adj total hadj =>
                split at h
                · cases h
                · next ss hss =>
                  cases h
                  obtain ⟨_, _, rfl⟩ := sub_some h1
                  obtain ⟨_, _, rfl⟩ := sub_some h2
                  obtain ⟨hn, rfl⟩ := div_some h3
                  have havg : avgT works = ((statT works).totalW - (statT works).minW - (statT works).maxW) /
                      (((statT works).valid : Int) - 2).toNat := by
                    unfold avgT; congr 1; omega
                  rw [← havg] at hadj hz
                  obtain ⟨rfl, rfl, hpos⟩ := adjustLoop_some hadj
                  obtain ⟨rfl, htot⟩ := shareLoop_some hss
                  rw [Nat.zero_add] at htot ⊢
                  refine ⟨Nat.le_of_not_lt hv, Nat.pos_of_ne_zero hz, hpos, fun hne => htot ?_, rfl⟩
                  intro hnil
                  exact hne (List.map_eq_nil_iff.mp (List.map_eq_nil_iff.mp hnil))

theorem sum_le_length_mul {l : List Nat} {c : Nat} (h : ∀ x ∈ l, x ≤ c) : l.sum ≤ l.length * c := by
  induction l with
  | nil => exact Nat.zero_le _
  | cons x xs ih =>
    rw [List.sum_cons, List.length_cons, Nat.succ_mul, Nat.add_comm]
    exact Nat.add_le_add (ih fun y hy => h y (List.mem_cons_of_mem _ hy)) (h x List.mem_cons_self)

theorem sum_map_div_mul_le (base total : Nat) : ∀ (as : List Nat),
    (as.map (fun a => base * a / total)).sum * total ≤ base * as.sum
  | [] => by simp
  | a :: as => by
    have ih := sum_map_div_mul_le base total as
    have h1 : base * a / total * total ≤ base * a := Nat.div_mul_le_self _ _
    rw [List.map_cons, List.sum_cons, List.sum_cons, Nat.add_mul, Nat.mul_add]
    omega

theorem sumLoop_some : ∀ {ms : List Nat} {t t' : Nat}, sumLoop ms t = some t' →
    t' = t + ms.sum ∧ ∀ m ∈ ms, 0 < m
  | [], t, t', h => by rw [sumLoop] at h; cases h; exact ⟨rfl, fun m hm => absurd hm List.not_mem_nil⟩
  | m :: ms, t, t', h => by
    rw [sumLoop] at h
    cases ha : add t m with
    | none => rw [ha] at h; cases h
    | some t1 =>
      rw [ha] at h
      obtain ⟨rfl, ih⟩ := sumLoop_some h
      obtain ⟨hm, rfl⟩ := add_some ha
      exact ⟨by rw [List.sum_cons, Nat.add_assoc], List.forall_mem_cons.mpr ⟨hm, ih⟩⟩

theorem tenths_some {amount z : Nat} {k : Int} (h : tenths amount k = some z) : z = amount / 10 * k.toNat := by
  unfold tenths at h
  have d : div amount 10 = some (amount / 10) := by simp [div]
  rw [d] at h
  exact (mul_some h).2

/-- what `buildUniversalMintTransaction` has checked when it builds a transaction -/
structure BuiltOutputs (batch amount : Nat) (dist : Nat → DistOut) (mints : List Nat) (safe light : Nat) : Prop where
  amount_pos : 0 < amount
  after_legacy : legacyEnding < batch
  dist_ok : dist (amount / 10 * 5) = .ok mints
  safe_eq : safe = amount / 10 * 4
  safe_pos : 0 < safe
  mints_pos : ∀ m ∈ mints, 0 < m
  sum_eq : mints.sum + safe + light = amount

theorem buildOutputs_tx {batch amount : Nat} {dist : Nat → DistOut} {mints : List Nat} {safe light : Nat}
    (h : buildOutputs batch amount dist = .tx mints safe light) : BuiltOutputs batch amount dist mints safe light := by
  obtain ⟨h0, h⟩ := of_ite_eq h nofun
  cases hk : tenths amount 5 with
  | none => rw [hk] at h; cases h
  | some kernel =>
    rw [hk] at h; dsimp only at h
    cases hd : dist kernel with
    | err => rw [hd] at h; cases h
    | panic => rw [hd] at h; cases h
    | ok ms =>
      rw [hd] at h; dsimp only at h
      cases hs : sumLoop ms 0 with
      | none => rw [hs] at h; cases h
      | some total =>
        rw [hs] at h
        obtain ⟨_, h⟩ := of_ite_eq h nofun
        cases hsafe : tenths amount 4 with
        | none => rw [hsafe] at h; cases h
        | some sf =>
          rw [hsafe] at h; dsimp only at h
          cases ha : add total sf with
          | none => rw [ha] at h; cases h
          | some total2 =>
            rw [ha] at h
            obtain ⟨_, h⟩ := of_ite_eq h nofun
            cases hl : sub amount total2 with
            | none => rw [hl] at h; cases h
            | some li =>
              rw [hl] at h
              cases h
              obtain ⟨rfl, hpos⟩ := sumLoop_some hs
              obtain ⟨hsf, rfl⟩ := add_some ha
              obtain ⟨_, hle, rfl⟩ := sub_some hl
              exact ⟨Nat.pos_of_ne_zero (not_or.mp h0).1, Nat.lt_of_not_le (not_or.mp h0).2,
                tenths_some hk ▸ hd, tenths_some hsafe, hsf, hpos, by omega⟩

end Mixin.Mint
