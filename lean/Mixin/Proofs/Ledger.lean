import Mixin.Model.Ledger
/-! Helper lemmas about the ledger model: association lists, and for every storage function the shape of
    the state it returns on success (the key families it writes, everything else being untouched).
    Core Lean only. -/
namespace Mixin.Ledger

section AList
variable {α β : Type} [DecidableEq α]

theorem aget_aset (l : List (α × β)) (k x : α) (v : β) :
    aget (aset l k v) x = if k = x then some v else aget l x := by
  induction l with
  | nil => rfl
  | cons hd t ih =>
    obtain ⟨k', w⟩ := hd
    by_cases hk : k' = k
    · subst hk
      by_cases hx : k' = x <;> simp [aset, aget, hx]
    · by_cases hx : k = x
      · subst hx; simp [aset, aget, hk, ih]
      · simp [aset, aget, hk, hx, ih]

theorem aget_aset_eq (l : List (α × β)) (k : α) (v : β) : aget (aset l k v) k = some v := by
  rw [aget_aset, if_pos rfl]

theorem aget_aset_ne (l : List (α × β)) (k x : α) (v : β) (h : k ≠ x) :
    aget (aset l k v) x = aget l x := by
  rw [aget_aset, if_neg h]

theorem aget_aset_of_none {l : List (α × β)} {k x : α} {w : β} (v : β) (hn : aget l k = none)
    (h : aget l x = some w) : aget (aset l k v) x = some w := by
  rw [aget_aset_ne _ _ _ _ fun e => by rw [e, h] at hn; cases hn]
  exact h

theorem aget_of_mem {l : List (α × β)} {k : α} {v : β} (hn : (l.map (·.1)).Nodup) (hm : (k, v) ∈ l) :
    aget l k = some v := by
  induction l with
  | nil => cases hm
  | cons e r ih =>
    obtain ⟨k', v'⟩ := e
    rw [List.map_cons, List.nodup_cons] at hn
    rcases List.mem_cons.1 hm with h | h
    · cases h; simp [aget]
    · have hne : k' ≠ k := fun hc => hn.1 (hc ▸ List.mem_map.2 ⟨(k, v), h, rfl⟩)
      simp [aget, hne, ih hn.2 h]

end AList

/-! ### ghost keys, outputs, totals: what one finalization writes -/

/-- a ghost key family after keys were taken for `t`: every key is as before or held by `t` -/
def GhostExt (t : Id) (g g' : List (Id × Id)) : Prop := ∀ k, aget g' k = aget g k ∨ aget g' k = some t

theorem GhostExt.refl (t : Id) (g : List (Id × Id)) : GhostExt t g g := fun _ => .inl rfl

theorem GhostExt.trans {t : Id} {a b c : List (Id × Id)} (h1 : GhostExt t a b) (h2 : GhostExt t b c) :
    GhostExt t a c := fun k =>
  (h2 k).elim (fun e => (h1 k).elim (fun e1 => .inl (e.trans e1)) (fun e1 => .inr (e.trans e1))) .inr

theorem lockGhostKey_frame {st st' : State} {k t : Id} (h : lockGhostKey st k t = .ok st') :
    ∃ g, GhostExt t st.ghost g ∧ st' = { st with ghost := g } := by
  unfold lockGhostKey at h
  split at h
  · cases h
    refine ⟨_, fun x => ?_, rfl⟩
    rw [aget_aset]
    split
    · exact .inr rfl
    · exact .inl rfl
  · split at h
    · cases h; exact ⟨_, GhostExt.refl _ _, rfl⟩
    · cases h

theorem lockGhostKeys_frame {ks : List Id} {st st' : State} {t : Id}
    (h : lockGhostKeys ks st t = .ok st') : ∃ g, GhostExt t st.ghost g ∧ st' = { st with ghost := g } := by
  induction ks generalizing st with
  | nil => cases h; exact ⟨_, GhostExt.refl _ _, rfl⟩
  | cons k r ih =>
    unfold lockGhostKeys at h
    split at h
    · rename_i s1 h1
      obtain ⟨g1, e1, rfl⟩ := lockGhostKey_frame h1
      obtain ⟨g2, e2, rfl⟩ := ih h
      exact ⟨g2, e1.trans e2, rfl⟩
    · cases h

theorem writeWithdrawalClaim_frame {st st' : State} {tx : Tx} (h : writeWithdrawalClaim st tx = .ok st') :
    ∃ w, st' = { st with withdrawal := w } := by
  unfold writeWithdrawalClaim at h
  split at h
  · cases h
  · split at h
    · cases h; exact ⟨_, rfl⟩
    · cases h

theorem writeAssetInfo_frame {st st' : State} {a : Id} {i : Id × Id} (h : writeAssetInfo st a i = .ok st') :
    ∃ ai, st' = { st with assetInfo := ai } := by
  unfold writeAssetInfo at h
  split at h
  · cases h; exact ⟨_, rfl⟩
  · split at h
    · cases h; exact ⟨st.assetInfo, rfl⟩
    · cases h

theorem writeUTXO_frame {st st' : State} {tx : Tx} {ts idx : Nat} {o : Output}
    (h : writeUTXO st tx ts idx o = .ok st') :
    ∃ g w n, GhostExt tx.id st.ghost g ∧
      st' = { st with ghost := g, utxo := aset st.utxo (tx.id, idx) ⟨tx.asset, o.typ, o.amount, o.keys, none⟩,
                      withdrawal := w, nodeLog := n } := by
  unfold writeUTXO at h
  split at h
  · cases h
  · rename_i st1 h1
    obtain ⟨g, eg, rfl⟩ := lockGhostKeys_frame h1
    simp only at h
    split at h
    all_goals first
      | (cases h; exact ⟨g, _, _, eg, rfl⟩)
      | (obtain ⟨w, rfl⟩ := writeWithdrawalClaim_frame h; exact ⟨g, w, _, eg, rfl⟩)

theorem writeTotal_ok {cap : Id → Nat} {st st' : State} {tx : Tx} (h : writeTotal cap st tx = .ok st') :
    ∃ T r, newTotal tx (readTotal st tx.asset) = .ok r ∧
      r.getD (readTotal st tx.asset) ≤ max (cap tx.asset) (readTotal st tx.asset) ∧
      (∀ a, (aget T a).getD 0 = if a = tx.asset then r.getD (readTotal st tx.asset) else readTotal st a) ∧
      st' = { st with total := T } := by
  unfold writeTotal at h
  split at h
  · cases h
  · split at h
    · cases h
    · rename_i hn
      cases h
      refine ⟨st.total, none, hn, Nat.le_max_right _ _, fun a => ?_, rfl⟩
      split
      · rename_i e; rw [e]; rfl
      · rfl
    · rename_i t hn
      split at h
      · cases h
      · rename_i hc
        cases h
        refine ⟨_, some t, hn, Nat.le_trans (Nat.not_lt.1 hc) (Nat.le_max_left _ _), fun a => ?_, rfl⟩
        rw [aget_aset]
        split
        · rename_i e; rw [if_pos e.symm]; rfl
        · rename_i e; rw [if_neg fun e' => e e'.symm]; rfl

/-- new entries written by the loop over `UnspentOutputs()` starting at output number `idx` -/
def newEntries (tx : Tx) : List Output → Nat → List ((Id × Nat) × UTXO)
  | [], _ => []
  | o :: r, idx =>
    if materialised o.typ = some true then
      ((tx.id, idx), ⟨tx.asset, o.typ, o.amount, o.keys, none⟩) :: newEntries tx r (idx + 1)
    else newEntries tx r (idx + 1)

/-- the writes of the loop over `UnspentOutputs()`, in order -/
def asetAll {α β : Type} [DecidableEq α] (l : List (α × β)) : List (α × β) → List (α × β)
  | [] => l
  | (k, v) :: r => asetAll (aset l k v) r

theorem writeOutputs_frame {outs : List Output} {idx : Nat} {st st' : State} {tx : Tx} {ts : Nat}
    (h : writeOutputs outs idx st tx ts = .ok st') :
    ∃ g w n, GhostExt tx.id st.ghost g ∧
      st' = { st with ghost := g, utxo := asetAll st.utxo (newEntries tx outs idx),
                      withdrawal := w, nodeLog := n } := by
  induction outs generalizing st idx with
  | nil => cases h; exact ⟨_, _, _, GhostExt.refl _ _, rfl⟩
  | cons o r ih =>
    unfold writeOutputs at h
    unfold newEntries
    split at h
    · rename_i hm
      rw [if_pos hm]
      split at h
      · rename_i s1 h1
        obtain ⟨g1, _, _, e1, rfl⟩ := writeUTXO_frame h1
        obtain ⟨g2, w, n, e2, rfl⟩ := ih h
        exact ⟨g2, w, n, e1.trans e2, rfl⟩
      · cases h
    · rename_i hm
      rw [if_neg hm]
      exact ih h

/-! ### finalizing one transaction -/

/-- the finalization family only grows -/
def FinMono (st st' : State) : Prop := ∀ t s, aget st.fin t = some s → aget st'.fin t = some s

theorem FinMono.refl (st : State) : FinMono st st := fun _ _ h => h

theorem FinMono.trans {a b c : State} (h1 : FinMono a b) (h2 : FinMono b c) : FinMono a c :=
  fun t s h => h2 t s (h1 t s h)

theorem finalizeTransaction_old {cap : Id → Nat} {st : State} {tx : Tx} {snap ts : Nat} {s : Id}
    (h : aget st.fin tx.id = some s) : finalizeTransaction cap st tx snap ts = .ok st := by
  unfold finalizeTransaction
  rw [h]

theorem finalizeTransaction_new {cap : Id → Nat} {st st' : State} {tx : Tx} {snap ts : Nat}
    (hn : aget st.fin tx.id = none) (h : finalizeTransaction cap st tx snap ts = .ok st') :
    ∃ ai g w n T r, newTotal tx (readTotal st tx.asset) = .ok r ∧
      r.getD (readTotal st tx.asset) ≤ max (cap tx.asset) (readTotal st tx.asset) ∧
      (∀ a, (aget T a).getD 0 = if a = tx.asset then r.getD (readTotal st tx.asset) else readTotal st a) ∧
      st' = { st with fin := aset st.fin tx.id snap, assetInfo := ai, ghost := g,
                      utxo := asetAll st.utxo (newEntries tx tx.outputs 0), withdrawal := w, nodeLog := n,
                      total := T } := by
  unfold finalizeTransaction at h
  rw [hn] at h
  simp only at h
  split at h
  · cases h
  · split at h
    · cases h
    · rename_i st2 h2
      have e2 : ∃ ai, st2 = { st with fin := aset st.fin tx.id snap, assetInfo := ai } := by
        split at h2
        · exact writeAssetInfo_frame h2
        · cases h2; exact ⟨_, rfl⟩
      obtain ⟨ai, rfl⟩ := e2
      split at h
      · cases h
      · split at h
        · cases h
        · rename_i st3 h3
          obtain ⟨g, w, n, _, rfl⟩ := writeOutputs_frame h3
          obtain ⟨T, r, hr, hle, hT, rfl⟩ := writeTotal_ok h
          exact ⟨ai, g, w, n, T, r, hr, hle, hT, rfl⟩

theorem finalizeTransaction_frame {cap : Id → Nat} {st st' : State} {tx : Tx} {snap ts : Nat}
    (h : finalizeTransaction cap st tx snap ts = .ok st') :
    FinMono st st' ∧ finalized st' tx.id = true ∧ st'.txs = st.txs ∧ st'.unique = st.unique ∧
    st'.topo = st.topo := by
  cases hn : aget st.fin tx.id with
  | some s =>
    rw [finalizeTransaction_old hn] at h
    cases h
    exact ⟨FinMono.refl _, by rw [finalized, hn]; rfl, rfl, rfl, rfl⟩
  | none =>
    obtain ⟨_, _, _, _, _, _, _, _, _, rfl⟩ := finalizeTransaction_new hn h
    refine ⟨fun t s ht => aget_aset_of_none snap hn ht, ?_, rfl, rfl, rfl⟩
    show (aget (aset st.fin tx.id snap) tx.id).isSome = true
    rw [aget_aset_eq]; rfl

/-! ### the loop of `writeSnapshot` -/

theorem finalizeAll_cons_ok {cap : Id → Nat} {t : Id} {r : List Id} {st st' : State} {snap : Snap}
    (h : finalizeAll cap (t :: r) st snap = .ok st') :
    ∃ tx s1, aget st.txs t = some tx ∧ finalizeTransaction cap st tx snap.id snap.ts = .ok s1 ∧
      finalizeAll cap r { s1 with unique := aset s1.unique (t, snap.node) () } snap = .ok st' := by
  unfold finalizeAll at h
  split at h
  · cases h
  · rename_i tx htx
    split at h
    · cases h
    · rename_i s1 h1
      exact ⟨tx, s1, htx, h1, h⟩

theorem finalizeAll_induct {cap : Id → Nat} {snap : Snap} {P : State → Prop}
    (step : ∀ (s s1 : State) (t : Id) (tx : Tx), P s → aget s.txs t = some tx →
      finalizeTransaction cap s tx snap.id snap.ts = .ok s1 →
      P { s1 with unique := aset s1.unique (t, snap.node) () })
    {l : List Id} {st st' : State} (h0 : P st) (h : finalizeAll cap l st snap = .ok st') : P st' := by
  induction l generalizing st with
  | nil => cases h; exact h0
  | cons t r ih =>
    obtain ⟨tx, s1, htx, h1, h⟩ := finalizeAll_cons_ok h
    exact ih (step st s1 t tx h0 htx h1) h

theorem finalizeAll_frame {cap : Id → Nat} {l : List Id} {st st' : State} {snap : Snap}
    (h : finalizeAll cap l st snap = .ok st') :
    FinMono st st' ∧ st'.txs = st.txs ∧ st'.topo = st.topo ∧
    ∀ k, aget st.unique k = some () → aget st'.unique k = some () := by
  refine finalizeAll_induct (P := fun s => FinMono st s ∧ s.txs = st.txs ∧ s.topo = st.topo ∧
    ∀ k, aget st.unique k = some () → aget s.unique k = some ()) ?_ ⟨FinMono.refl _, rfl, rfl, fun _ hk => hk⟩ h
  intro s s1 t tx ⟨m, ex, et, u⟩ _ h1
  obtain ⟨m1, _, ex1, eu1, et1⟩ := finalizeTransaction_frame h1
  refine ⟨m.trans m1, ex1.trans ex, et1.trans et, fun k hk => ?_⟩
  show aget (aset s1.unique (t, snap.node) ()) k = some ()
  rw [aget_aset, eu1]
  split
  · rfl
  · exact u k hk

/-- content addressing: the body stored under a hash has that hash -/
def TxsKeyed (st : State) : Prop := ∀ k tx, aget st.txs k = some tx → tx.id = k

theorem finalizeAll_effects {cap : Id → Nat} {l : List Id} {st st' : State} {snap : Snap}
    (hk : TxsKeyed st) (h : finalizeAll cap l st snap = .ok st') :
    ∀ t ∈ l, finalized st' t = true ∧ aget st'.unique (t, snap.node) = some () := by
  induction l generalizing st with
  | nil => nofun
  | cons t r ih =>
    obtain ⟨tx, s1, htx, h1, h⟩ := finalizeAll_cons_ok h
    obtain ⟨_, hf, ht, _, _⟩ := finalizeTransaction_frame h1
    obtain ⟨m, _, _, u⟩ := finalizeAll_frame h
    intro x hx
    rcases List.mem_cons.mp hx with rfl | e
    · rw [hk x tx htx] at hf
      obtain ⟨v, hs⟩ := Option.isSome_iff_exists.1 hf
      exact ⟨by unfold finalized; rw [m x v hs]; rfl, u _ (aget_aset_eq _ _ _)⟩
    · exact ih (st := { s1 with unique := aset s1.unique (t, snap.node) () }) (fun k x hx => hk k x (ht ▸ hx))
        h x e

/-! ### locks and persisting a body -/

theorem pruneTransaction_frame {st st' : State} {t : Id} (h : pruneTransaction st t = .ok st') :
    finalized st t = false ∧ ∃ x, st' = { st with txs := x } := by
  unfold pruneTransaction at h
  split at h
  · cases h
  · rename_i hf
    cases h
    exact ⟨Bool.eq_false_iff.2 hf, _, rfl⟩

theorem lockUTXO_ok {st st' : State} {h i t : Id} {fork : Bool} (hh : lockUTXO st h i t fork = .ok st') :
    ∃ u x, aget st.utxo (h, i) = some u ∧ (∀ l, u.lock = some l → l = t ∨ finalized st l = false) ∧
      st' = { st with utxo := aset st.utxo (h, i) ⟨u.asset, u.typ, u.amount, u.keys, some t⟩, txs := x } := by
  unfold lockUTXO at hh
  split at hh
  · cases hh
  · rename_i u hg
    simp only at hh
    split at hh
    · rename_i hl
      cases hh
      exact ⟨u, _, hg, fun l e => (nomatch hl.symm.trans e), rfl⟩
    · rename_i l hl
      split at hh
      · rename_i e
        cases hh
        exact ⟨u, _, hg, fun l' e' => .inl (Option.some.inj (e'.symm.trans hl) ▸ e), rfl⟩
      · split at hh
        · cases hh
        · split at hh
          · rename_i s1 h1
            obtain ⟨hf, x, rfl⟩ := pruneTransaction_frame h1
            cases hh
            exact ⟨u, x, hg, fun l' e' => .inr (Option.some.inj (e'.symm.trans hl) ▸ hf), rfl⟩
          · cases hh

theorem lockUTXOs_frame {ins : List Input} {st st' : State} {t : Id} {fork : Bool}
    (h : lockUTXOs ins st t fork = .ok st') : ∃ u x, st' = { st with utxo := u, txs := x } := by
  induction ins generalizing st with
  | nil => cases h; exact ⟨_, _, rfl⟩
  | cons x r ih =>
    cases x with
    | utxo hh i =>
      unfold lockUTXOs at h
      split at h
      · rename_i s1 h1
        obtain ⟨_, _, _, _, rfl⟩ := lockUTXO_ok h1
        obtain ⟨u, x, rfl⟩ := ih h
        exact ⟨u, x, rfl⟩
      · cases h
    | deposit _ _ _ _ => cases h
    | mint _ _ => cases h
    | genesis => cases h

theorem lockDeposit_frame {st st' : State} {k t : Id} {fork : Bool} (h : lockDeposit st k t fork = .ok st') :
    ∃ d x, st' = { st with deposit := d, txs := x } := by
  unfold lockDeposit at h
  split at h
  · cases h; exact ⟨_, _, rfl⟩
  · split at h
    · cases h; exact ⟨_, _, rfl⟩
    · split at h
      · cases h
      · split at h
        · rename_i s1 h1
          obtain ⟨_, x, rfl⟩ := pruneTransaction_frame h1
          cases h; exact ⟨_, x, rfl⟩
        · cases h

theorem lockMint_frame {st st' : State} {b a t : Id} {fork : Bool} (h : lockMint st b a t fork = .ok st') :
    ∃ m x, st' = { st with mint := m, txs := x } := by
  unfold lockMint at h
  split at h
  · cases h; exact ⟨_, _, rfl⟩
  · split at h
    · cases h; exact ⟨_, _, rfl⟩
    · split at h
      · cases h
      · split at h
        · rename_i s1 h1
          obtain ⟨_, x, rfl⟩ := pruneTransaction_frame h1
          cases h; exact ⟨_, x, rfl⟩
        · cases h

theorem lockInputsTxn_cases {st st' : State} {tx : Tx} {fork : Bool} (h : lockInputsTxn st tx fork = .ok st') :
    (∃ d m x, st' = { st with deposit := d, mint := m, txs := x }) ∨
    lockUTXOs tx.inputs st tx.id fork = .ok st' := by
  unfold lockInputsTxn at h
  split at h
  · split at h
    · obtain ⟨m, x, rfl⟩ := lockMint_frame h
      exact .inl ⟨_, m, x, rfl⟩
    · cases h
  · split at h
    · obtain ⟨d, x, rfl⟩ := lockDeposit_frame h
      exact .inl ⟨d, _, x, rfl⟩
    · cases h
  · exact .inr h

theorem lockInputsTxn_frame {st st' : State} {tx : Tx} {fork : Bool} (h : lockInputsTxn st tx fork = .ok st') :
    ∃ u d m x, st' = { st with utxo := u, deposit := d, mint := m, txs := x } := by
  rcases lockInputsTxn_cases h with ⟨d, m, x, rfl⟩ | h
  · exact ⟨_, d, m, x, rfl⟩
  · obtain ⟨u, x, rfl⟩ := lockUTXOs_frame h
    exact ⟨u, _, _, x, rfl⟩

theorem writeTransactionTxn_frame {st st' : State} {tx : Tx} (h : writeTransactionTxn st tx = .ok st') :
    ∃ x, st' = { st with txs := x } := by
  unfold writeTransactionTxn at h
  split at h
  · cases h
  · split at h
    · cases h
    · unfold writeTransactionInner at h
      split at h
      · cases h; exact ⟨st.txs, rfl⟩
      · split at h
        · cases h; exact ⟨_, rfl⟩
        · cases h

/-! ### `Validate` up to the ghost-key locks -/

theorem of_ite_none {α : Type} {c : Prop} [Decidable c] {x : Option α} {y : α}
    (h : (if c then none else x) = some y) : x = some y :=
  (Option.ite_none_left_eq_some.mp h).2

theorem validateCore_locks {st st1 : State} {tx : Tx} {fork : Bool} {us : List UTXO}
    (h : validateCore st tx fork = some (st1, us)) :
    lockGhostKeys (ghostKeys tx) st tx.id = .ok st1 := by
  unfold validateCore at h
  replace h := of_ite_none (of_ite_none (of_ite_none h))
  split at h
  · cases h
  · replace h := of_ite_none (of_ite_none (of_ite_none (of_ite_none (of_ite_none h))))
    split at h
    · cases h
    · rename_i s hl
      cases h
      exact hl

/-! ### the Badger transactions -/

theorem atomic_ok {st st' : State} {r : Except Fail State} (h : atomic st r = (none, st')) : r = .ok st' := by
  unfold atomic at h
  split at h
  · simp at h; rw [h]
  · simp at h

theorem atomic_fail {st : State} {r : Except Fail State} {e : Fail} {st' : State}
    (h : atomic st r = (some e, st')) : st' = st := by
  unfold atomic at h
  split at h
  · simp at h
  · simp at h; exact h.2.symm

theorem atomic_snd (st : State) (r : Except Fail State) : (atomic st r).2 = st ∨ r = .ok (atomic st r).2 := by
  unfold atomic
  split
  · exact .inr rfl
  · exact .inl rfl

theorem validate_frame (P : Params) (st : State) (tx : Tx) (fork : Bool) :
    ∃ g, (validate P st tx fork).2 = { st with ghost := g } := by
  unfold validate
  split
  · exact ⟨st.ghost, rfl⟩
  · rename_i h
    obtain ⟨g, _, e⟩ := lockGhostKeys_frame (validateCore_locks h)
    exact ⟨g, e⟩

theorem LockInputs_frame (st : State) (tx : Tx) (fork : Bool) :
    ∃ u d m x, (LockInputs st tx fork).2 = { st with utxo := u, deposit := d, mint := m, txs := x } :=
  (atomic_snd st _).elim (fun e => ⟨_, _, _, _, e⟩) lockInputsTxn_frame

theorem WriteTransaction_frame (st : State) (tx : Tx) :
    ∃ x, (WriteTransaction st tx).2 = { st with txs := x } :=
  (atomic_snd st _).elim (fun e => ⟨_, e⟩) writeTransactionTxn_frame

theorem WriteSnapshot_cases (cap : Id → Nat) (st : State) (snap : Snap) (sg : Nat) :
    (∃ e, WriteSnapshot cap st snap sg = (some e, st)) ∨
    ∃ s1, finalizeAll cap snap.txs st snap = .ok s1 ∧
      WriteSnapshot cap st snap sg = (none,
        { s1 with snaps := aset s1.snaps snap.id snap, topo := aset s1.topo snap.topo snap.id,
                  snapTopo := aset s1.snapTopo snap.id snap.topo,
                  work := aset s1.work (snap.node, snap.round, snap.ts) (snap.id, sg) }) := by
  unfold WriteSnapshot
  cases h : writeSnapshotTxn cap st snap sg with
  | error e => exact .inl ⟨e, rfl⟩
  | ok st' =>
    unfold writeSnapshotTxn at h
    split at h
    · cases h
    · split at h
      · cases h
      · rename_i st1 h1
        cases h
        unfold writeSnapshotInner at h1
        split at h1
        · cases h1
        · rename_i s1 hfa
          simp only at h1
          split at h1
          · cases h1
          · cases h1
            exact .inr ⟨s1, hfa, rfl⟩

end Mixin.Ledger
