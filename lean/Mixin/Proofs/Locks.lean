import Mixin.Model.Locks
import Mixin.Proofs.KV
import Mixin.Proofs.Basics
/-! What a successful call of the lock model did (one lemma per call), what every call leaves
alone (`exec_frame`), and the induction over histories (`run_invariant`); used by Props/C03 and
Props/C04. -/
namespace Mixin.Locks
open Mixin.KV

theorem pruneTransaction_some {s s' : Store} {h : Nat} (hp : pruneTransaction s h = some s') :
    s.fin.get h = none ∧ s' = { s with tx := s.tx.del h } := by
  unfold pruneTransaction at hp
  split at hp
  · cases hp
  · next hfin => cases hp; exact ⟨hfin, rfl⟩

theorem pruneTransaction_none {s : Store} {h : Nat} (hp : pruneTransaction s h = none) :
    s.fin.get h ≠ none := by
  unfold pruneTransaction at hp
  split at hp
  · next v hv => rw [hv]; simp
  · cases hp

theorem pruneTransaction_of_fin {s : Store} {h : Nat} (hfin : s.fin.get h ≠ none) :
    pruneTransaction s h = none := by
  unfold pruneTransaction
  split
  · rfl
  · next hf => exact absurd hf hfin

variable {c : Cfg} {exc : List Nat} {kd : OutKinds} {side : Side} {s s' : Store} {op : Op}
  {tx : Nat} {fork : Bool}

theorem step_not_ok (h : ∀ s', exec c s op ≠ .ok s') : step c s op = s := by
  unfold step
  split
  · next s' he => exact absurd he (h s')
  · rfl

theorem step_err (h : exec c s op = .err) : step c s op = s := by
  unfold step
  rw [h]

theorem run_invariant (c : Cfg) {P : Store → Prop} {ops : List Op}
    (hP : ∀ op ∈ ops, ∀ s s', exec c s op = .ok s' → P s → P s') (h : P s) : P (run c s ops) := by
  unfold run
  induction ops generalizing s with
  | nil => exact h
  | cons op rest ih =>
    refine ih (fun o ho => hP o (List.mem_cons_of_mem _ ho)) ?_
    unfold step
    split
    · next s' he => exact hP op List.mem_cons_self s s' he h
    · exact h

/-- a holder is protected from a call when the call is not a fork call or the holder is finalized -/
def Prot (s : Store) (fork : Bool) (t : Nat) : Prop := fork = false ∨ s.fin.get t ≠ none

theorem Prot.not_displaced {t : Nat} (hp : Prot s fork t) (hf : fork = true) (hfin : s.fin.get t = none) :
    False := by
  rcases hp with hp | hp
  · rw [hp] at hf; cases hf
  · exact hp hfin

/-- the takeover branch the three slot locks share: it is taken on fork calls only, prunes the holder
    `cur`, which has no FINALIZATION record, and writes (`f`) into the pruned database -/
theorem takeover_ok {f : Store → Store} {cur : Nat}
    (h : (if fork = true then
            match pruneTransaction s cur with
            | none => Res.err
            | some s1 => .ok (f s1)
          else .err) = .ok s') :
    fork = true ∧ s.fin.get cur = none ∧ s' = f { s with tx := s.tx.del cur } := by
  cases fork with
  | false => cases h
  | true =>
    cases hp : pruneTransaction s cur with
    | none => rw [hp] at h; cases h
    | some s1 =>
      rw [hp] at h
      obtain ⟨hfin, rfl⟩ := pruneTransaction_some hp
      exact ⟨rfl, hfin, (Res.ok.inj h).symm⟩

theorem lockUTXO_ok {x : Nat × Nat} (h : lockUTXO s x tx fork = .ok s') :
    x.2 ≤ maxIndex ∧ ∃ cur, s.utxo.get x = some cur ∧
      (((cur = 0 ∨ cur = tx) ∧ s' = { s with utxo := s.utxo.set x tx }) ∨
       (cur ≠ 0 ∧ cur ≠ tx ∧ fork = true ∧ s.fin.get cur = none ∧
          s' = { s with tx := s.tx.del cur, utxo := s.utxo.set x tx })) := by
  unfold lockUTXO at h
  obtain ⟨hidx, h⟩ := of_ite_eq h nofun
  refine ⟨Nat.le_of_not_gt hidx, ?_⟩
  cases hcur : s.utxo.get x with
  | none => rw [hcur] at h; cases h
  | some cur =>
    simp only [hcur] at h
    refine ⟨cur, rfl, ?_⟩
    by_cases hc : cur ≠ 0 ∧ cur ≠ tx
    · rw [if_pos hc] at h
      obtain ⟨hf, hfin, rfl⟩ := takeover_ok h
      exact Or.inr ⟨hc.1, hc.2, hf, hfin, rfl⟩
    · rw [if_neg hc] at h
      exact Or.inl ⟨Decidable.or_iff_not_not_and_not.mpr hc, (Res.ok.inj h).symm⟩

theorem lockUTXO_frame {x : Nat × Nat} (h : lockUTXO s x tx fork = .ok s') :
    s'.fin = s.fin ∧ s'.deposit = s.deposit ∧ s'.mint = s.mint ∧ s'.ghost = s.ghost ∧
    s'.unique = s.unique ∧ s'.utxo = s.utxo.set x tx ∧
    (∀ h' v, s'.tx.get h' = some v → s.tx.get h' = some v) := by
  obtain ⟨_, cur, _, hc⟩ := lockUTXO_ok h
  rcases hc with ⟨_, rfl⟩ | ⟨_, _, _, _, rfl⟩
  · exact ⟨rfl, rfl, rfl, rfl, rfl, rfl, fun _ _ h => h⟩
  · exact ⟨rfl, rfl, rfl, rfl, rfl, rfl, fun _ _ h => Map.get_del_some h⟩

theorem lockUTXOs_cons_ok {x : Nat × Nat} {xs : List (Nat × Nat)} (h : lockUTXOs (x :: xs) tx fork s = .ok s') :
    ∃ s1, lockUTXO s x tx fork = .ok s1 ∧ lockUTXOs xs tx fork s1 = .ok s' := by
  unfold lockUTXOs at h
  split at h
  · next s1 h1 => exact ⟨s1, h1, h⟩
  · next hnot => exact absurd h (hnot s')

/-- What a successful `LockUTXOs` over `ins` for `tx` did: the listed outputs, which all existed,
    are held by `tx`; bodies (of displaced holders) may be gone; nothing else changed. -/
structure Locked (ins : List (Nat × Nat)) (tx : Nat) (s s' : Store) : Prop where
  fin : s'.fin = s.fin
  deposit : s'.deposit = s.deposit
  mint : s'.mint = s.mint
  ghost : s'.ghost = s.ghost
  unique : s'.unique = s.unique
  bodies : ∀ h v, s'.tx.get h = some v → s.tx.get h = some v
  utxo : ∀ y, s'.utxo.get y = if y ∈ ins then some tx else s.utxo.get y
  dom : ∀ y, (s'.utxo.get y).isSome = (s.utxo.get y).isSome

theorem lockUTXOs_frame {ins : List (Nat × Nat)} (h : lockUTXOs ins tx fork s = .ok s') :
    Locked ins tx s s' := by
  induction ins generalizing s with
  | nil =>
    cases h
    exact ⟨rfl, rfl, rfl, rfl, rfl, fun _ _ h => h, fun _ => rfl, fun _ => rfl⟩
  | cons x xs ih =>
    obtain ⟨s1, h1, h⟩ := lockUTXOs_cons_ok h
    obtain ⟨f1, d1, m1, g1, u1, ut1, t1⟩ := lockUTXO_frame h1
    obtain ⟨_, cur, hcur, _⟩ := lockUTXO_ok h1
    obtain ⟨f2, d2, m2, g2, u2, t2, get2, dom2⟩ := ih h
    refine ⟨f2.trans f1, d2.trans d1, m2.trans m1, g2.trans g1, u2.trans u1,
      fun h' v hv => t1 h' v (t2 h' v hv), fun y => ?_, fun y => ?_⟩
    · -- a slot listed again further on is written again, with the same `tx`
      rw [get2 y]
      by_cases hyx : y ∈ xs
      · rw [if_pos hyx, if_pos (List.mem_cons_of_mem _ hyx)]
      · rw [if_neg hyx, ut1, Map.get_set]
        by_cases e : x = y
        · rw [if_pos e, if_pos (e ▸ List.mem_cons_self)]
        · rw [if_neg e, if_neg (fun h => (List.mem_cons.mp h).elim (fun e' => e e'.symm) hyx)]
    · rw [dom2 y, ut1, Map.get_set]
      split
      · next e => rw [← e, hcur]; rfl
      · rfl

/-- A successful `LockUTXOs` that lists a slot held by another transaction `cur` was a fork call,
    `cur` had no FINALIZATION record, and its body is gone from the resulting database: it is
    deleted when the slot is processed and never comes back. -/
theorem lockUTXOs_displaced {ins : List (Nat × Nat)} {x : Nat × Nat} {cur : Nat}
    (h : lockUTXOs ins tx fork s = .ok s') (hx : x ∈ ins) (hcur : s.utxo.get x = some cur)
    (h0 : cur ≠ 0) (hne : cur ≠ tx) : fork = true ∧ s.fin.get cur = none ∧ s'.tx.get cur = none := by
  induction ins generalizing s with
  | nil => cases hx
  | cons y ys ih =>
    obtain ⟨s1, h1, h⟩ := lockUTXOs_cons_ok h
    by_cases hxy : x = y
    · subst hxy
      obtain ⟨_, cur', hcur', hc⟩ := lockUTXO_ok h1
      rw [hcur] at hcur'
      cases hcur'
      rcases hc with ⟨hh, _⟩ | ⟨_, _, hf, hfin, rfl⟩
      · exact absurd hh (not_or.mpr ⟨h0, hne⟩)
      · refine ⟨hf, hfin, ?_⟩
        exact Option.eq_none_iff_forall_ne_some.mpr fun v hq =>
          nomatch ((lockUTXOs_frame h).bodies cur v hq).symm.trans (Map.get_del_same s.tx cur)
    · obtain ⟨hfin, _, _, _, _, hut, _⟩ := lockUTXO_frame h1
      have hx' : x ∈ ys := (List.mem_cons.mp hx).resolve_left hxy
      have hcur1 : s1.utxo.get x = some cur := by
        rw [hut, Map.get_set_ne _ _ (Ne.symm hxy)]; exact hcur
      rw [← hfin]
      exact ih h hx' hcur1

theorem lockUTXOs_blocked {ins : List (Nat × Nat)} {x : Nat × Nat} {cur : Nat}
    (hx : x ∈ ins) (hcur : s.utxo.get x = some cur) (h0 : cur ≠ 0) (hne : cur ≠ tx)
    (hb : Prot s fork cur) : ∀ s', lockUTXOs ins tx fork s ≠ .ok s' := by
  intro s' h
  obtain ⟨hf, hfin, _⟩ := lockUTXOs_displaced h hx hcur h0 hne
  exact hb.not_displaced hf hfin

theorem lockDeposit_ok {d : Nat} (h : lockDeposit s d tx fork = .ok s') :
    (s.deposit.get d = none ∧ s' = { s with deposit := s.deposit.set d tx }) ∨
    (s.deposit.get d = some tx ∧ s' = s) ∨
    (∃ cur, s.deposit.get d = some cur ∧ cur ≠ tx ∧ fork = true ∧ s.fin.get cur = none ∧
       s' = { s with tx := s.tx.del cur, deposit := s.deposit.set d tx }) := by
  unfold lockDeposit at h
  cases hg : s.deposit.get d with
  | none => rw [hg] at h; exact Or.inl ⟨rfl, (Res.ok.inj h).symm⟩
  | some cur =>
    simp only [hg] at h
    by_cases e : cur = tx
    · rw [if_pos e] at h; exact Or.inr (Or.inl ⟨e ▸ rfl, (Res.ok.inj h).symm⟩)
    · rw [if_neg e] at h
      obtain ⟨hf, hfin, rfl⟩ := takeover_ok h
      exact Or.inr (Or.inr ⟨cur, rfl, e, hf, hfin, rfl⟩)

theorem lockDeposit_blocked {d cur : Nat} (hcur : s.deposit.get d = some cur) (hne : cur ≠ tx)
    (hb : Prot s fork cur) : lockDeposit s d tx fork = .err := by
  cases fork with
  | false => simp [lockDeposit, hcur, hne]
  | true => simp [lockDeposit, hcur, hne, pruneTransaction_of_fin (hb.resolve_left nofun)]

theorem lockMint_ok {b a : Nat} (h : lockMint s b a tx fork = .ok s') :
    (s.mint.get b = none ∧ s' = { s with mint := s.mint.set b (tx, a) }) ∨
    (s.mint.get b = some (tx, a) ∧ s' = s) ∨
    (∃ cur, s.mint.get b = some cur ∧ cur ≠ (tx, a) ∧ fork = true ∧ s.fin.get cur.1 = none ∧
       s' = { s with tx := s.tx.del cur.1, mint := s.mint.set b (tx, a) }) := by
  unfold lockMint at h
  cases hg : s.mint.get b with
  | none => rw [hg] at h; exact Or.inl ⟨rfl, (Res.ok.inj h).symm⟩
  | some cur =>
    simp only [hg] at h
    by_cases e : cur.1 = tx ∧ cur.2 = a
    · rw [if_pos e] at h; exact Or.inr (Or.inl ⟨congrArg some (Prod.ext e.1 e.2), (Res.ok.inj h).symm⟩)
    · rw [if_neg e] at h
      obtain ⟨hf, hfin, rfl⟩ := takeover_ok h
      exact Or.inr (Or.inr ⟨cur, rfl, fun ec => e (Prod.ext_iff.mp ec), hf, hfin, rfl⟩)

theorem lockMint_blocked {b a : Nat} {cur : Nat × Nat} (hcur : s.mint.get b = some cur) (hne : cur ≠ (tx, a))
    (hb : Prot s fork cur.1) : lockMint s b a tx fork = .err := by
  have hn : ¬ (cur.1 = tx ∧ cur.2 = a) := fun h => hne (Prod.ext h.1 h.2)
  cases fork with
  | false => simp [lockMint, hcur, hn]
  | true => simp [lockMint, hcur, hn, pruneTransaction_of_fin (hb.resolve_left nofun)]

theorem writeTransaction_ok {t : Tx} (h : writeTransaction s t = .ok s') :
    s' = s ∨ s' = { s with tx := s.tx.set t.id () } := by
  unfold writeTransaction at h
  by_cases hl : t.ins.all (inputLocked s t.id) = true
  · rw [if_pos hl] at h
    cases hb : s.tx.get t.id with
    | some _ => rw [hb] at h; exact Or.inl (Res.ok.inj h).symm
    | none =>
      simp only [hb] at h
      exact Or.inr (Res.ok.inj (of_ite_eq h nofun).2).symm
  · rw [if_neg hl] at h; cases h

def GhostMono (s s' : Store) : Prop := ∀ k v, s.ghost.get k = some v → s'.ghost.get k = some v

/-- the effect of the ghost-key code: no other family changes, and `GhostMono` -/
structure GhostExt (s s' : Store) : Prop where
  utxo : s'.utxo = s.utxo
  deposit : s'.deposit = s.deposit
  mint : s'.mint = s.mint
  tx : s'.tx = s.tx
  fin : s'.fin = s.fin
  unique : s'.unique = s.unique
  ghost : GhostMono s s'

namespace GhostExt

theorem refl (s : Store) : GhostExt s s := ⟨rfl, rfl, rfl, rfl, rfl, rfl, fun _ _ h => h⟩

theorem trans {a b c : Store} (h1 : GhostExt a b) (h2 : GhostExt b c) : GhostExt a c :=
  ⟨h2.utxo.trans h1.utxo, h2.deposit.trans h1.deposit, h2.mint.trans h1.mint, h2.tx.trans h1.tx,
   h2.fin.trans h1.fin, h2.unique.trans h1.unique, fun k v h => h2.ghost k v (h1.ghost k v h)⟩

end GhostExt

/-- What a successful `lockGhostKey` for `tx` establishes of the key: it is bound, and bound to
    `tx` unless the call was a fork call of an exception.  Later calls keep it (`Bound.mono`). -/
def Bound (exc : List Nat) (tx : Nat) (fork : Bool) (s : Store) (k : Nat) : Prop :=
  ∃ cur, s.ghost.get k = some cur ∧ ((fork = true ∧ tx ∈ exc) ∨ cur = tx)

namespace Bound

theorem mono {k : Nat} (h : Bound exc tx fork s k) (m : GhostMono s s') : Bound exc tx fork s' k :=
  let ⟨cur, hg, hc⟩ := h
  ⟨cur, m k cur hg, hc⟩

theorem get {k : Nat} (h : Bound exc tx fork s k) (hx : ¬ (fork = true ∧ tx ∈ exc)) :
    s.ghost.get k = some tx := by
  obtain ⟨cur, hg, hc⟩ := h
  rw [hg, hc.resolve_left hx]

theorem exception {k cur : Nat} (h : Bound exc tx fork s k) (hg : s.ghost.get k = some cur)
    (hne : cur ≠ tx) : fork = true ∧ tx ∈ exc := by
  obtain ⟨cur', hg', hc⟩ := h
  rw [hg] at hg'
  cases hg'
  exact hc.resolve_right hne

end Bound

theorem lockGhostKey_some {k : Nat} (h : lockGhostKey exc s k tx fork = some s') :
    (s.ghost.get k = none ∧ s' = { s with ghost := s.ghost.set k tx }) ∨
    (∃ cur, s.ghost.get k = some cur ∧ cur ≠ 0 ∧ s' = s ∧ ((fork = true ∧ tx ∈ exc) ∨ cur = tx)) := by
  unfold lockGhostKey at h
  cases hg : s.ghost.get k with
  | none => rw [hg] at h; exact Or.inl ⟨rfl, (Option.some.inj h).symm⟩
  | some cur =>
    simp only [hg] at h
    refine Or.inr ⟨cur, rfl, ?_⟩
    obtain ⟨h0, h⟩ := of_ite_eq h nofun
    by_cases he : fork = true ∧ tx ∈ exc
    · rw [if_pos he] at h; exact ⟨h0, (Option.some.inj h).symm, Or.inl he⟩
    · rw [if_neg he] at h
      obtain ⟨hc, h⟩ := of_ite_eq h nofun
      exact ⟨h0, (Option.some.inj h).symm, Or.inr (Decidable.not_not.mp hc)⟩

theorem lockGhostKey_ok {k : Nat} (h : lockGhostKey exc s k tx fork = some s') :
    GhostExt s s' ∧ Bound exc tx fork s' k := by
  rcases lockGhostKey_some h with ⟨hg, rfl⟩ | ⟨cur, hg, _, rfl, hc⟩
  · exact ⟨⟨rfl, rfl, rfl, rfl, rfl, rfl,
      fun k' v hv => Map.get_set_of_get hv (fun e => by rw [e, hv] at hg; cases hg)⟩,
      tx, Map.get_set_same _ _ _, Or.inr rfl⟩
  · exact ⟨GhostExt.refl _, cur, hg, hc⟩

theorem lockGhostKey_foreign {k cur : Nat} (hg : s.ghost.get k = some cur) (hne : cur ≠ tx)
    (hx : ¬ (fork = true ∧ tx ∈ exc)) : lockGhostKey exc s k tx fork = none :=
  Option.eq_none_iff_forall_ne_some.mpr fun _ h =>
    have ⟨e, b⟩ := lockGhostKey_ok h
    hx (b.exception (e.ghost k cur hg) hne)

theorem lockGhostLoop_ok {keys seen : List Nat} (h : lockGhostLoop exc tx fork keys seen s = some s') :
    GhostExt s s' ∧ (∀ k ∈ keys, Bound exc tx fork s' k) ∧ keys.Nodup ∧ ∀ k ∈ keys, k ∉ seen := by
  induction keys generalizing s seen with
  | nil =>
    cases h
    exact ⟨GhostExt.refl _, nofun, List.nodup_nil, nofun⟩
  | cons k ks ih =>
    unfold lockGhostLoop at h
    obtain ⟨hns, h⟩ := of_ite_eq h nofun
    cases h1 : lockGhostKey exc s k tx fork with
    | none => rw [h1] at h; cases h
    | some s1 =>
      rw [h1] at h
      obtain ⟨e1, b1⟩ := lockGhostKey_ok h1
      obtain ⟨e, b, nd, dj⟩ := ih h
      exact ⟨e1.trans e, List.forall_mem_cons.mpr ⟨b1.mono e.ghost, b⟩,
        List.nodup_cons.mpr ⟨fun hk => dj k hk List.mem_cons_self, nd⟩,
        List.forall_mem_cons.mpr ⟨hns, fun k' hk' hs => dj k' hk' (List.mem_cons_of_mem _ hs)⟩⟩

theorem lockGhostLoop_foreign {keys seen : List Nat} {k cur : Nat} (hk : k ∈ keys)
    (hg : s.ghost.get k = some cur) (hne : cur ≠ tx) (hx : ¬ (fork = true ∧ tx ∈ exc)) :
    lockGhostLoop exc tx fork keys seen s = none :=
  Option.eq_none_iff_forall_ne_some.mpr fun _ h =>
    have ⟨e, b, _⟩ := lockGhostLoop_ok h
    hx ((b k hk).exception (e.ghost k cur hg) hne)

theorem scanKeys_some {valid : Nat → Bool} {ks seen seen' : List Nat} (h : scanKeys valid ks seen = some seen') :
    seen' = ks.reverse ++ seen ∧ (seen.Nodup → seen'.Nodup) := by
  induction ks generalizing seen with
  | nil => cases h; exact ⟨rfl, id⟩
  | cons k r ih =>
    unfold scanKeys at h
    obtain ⟨hk, h⟩ := of_ite_eq h nofun
    by_cases hv : valid k = true
    · rw [if_pos hv] at h
      obtain ⟨e, nd⟩ := ih h
      refine ⟨?_, fun hs => nd (List.nodup_cons.mpr ⟨hk, hs⟩)⟩
      rw [e, List.reverse_cons, List.append_assoc]
      rfl
    · rw [if_neg hv] at h; cases h

theorem scanOuts_some {oc : OutCfg} {outs : List Out} {seen seen' : List Nat} (h : scanOuts oc outs seen = some seen') :
    seen' = (outs.flatMap (·.keys)).reverse ++ seen ∧ (seen.Nodup → seen'.Nodup) := by
  induction outs generalizing seen with
  | nil => cases h; exact ⟨rfl, id⟩
  | cons o os ih =>
    unfold scanOuts at h
    obtain ⟨_, h⟩ := of_ite_eq h nofun
    obtain ⟨_, h⟩ := of_ite_eq h nofun
    cases h1 : scanKeys oc.keyValid o.keys seen with
    | none => rw [h1] at h; cases h
    | some s1 =>
      simp only [h1] at h
      by_cases hs : shapeOk oc o = true
      · rw [if_pos hs] at h
        obtain ⟨e1, nd1⟩ := scanKeys_some h1
        obtain ⟨e2, nd2⟩ := ih h
        refine ⟨?_, fun hs => nd2 (nd1 hs)⟩
        rw [e2, e1, List.flatMap_cons, List.reverse_append, List.append_assoc]
      · rw [if_neg hs] at h; cases h

/-- what `validateOutputs` hands to `LockGhostKeys`: the keys of the outputs in order, none twice -/
theorem scanOuts_keys_nodup {oc : OutCfg} {outs : List Out} {seen : List Nat} (h : scanOuts oc outs [] = some seen) :
    seen.reverse = outs.flatMap (·.keys) ∧ (outs.flatMap (·.keys)).Nodup := by
  obtain ⟨e, nd⟩ := scanOuts_some h
  rw [List.append_nil] at e
  subst e
  exact ⟨List.reverse_reverse _, (List.pairwise_reverse.mp (nd List.nodup_nil)).imp Ne.symm⟩

theorem lockKeysFinal_ok {keys : List Nat} (h : lockKeysFinal exc tx keys s = some s') :
    GhostExt s s' ∧ ∀ k ∈ keys, Bound exc tx true s' k := by
  induction keys generalizing s with
  | nil =>
    cases h
    exact ⟨GhostExt.refl _, nofun⟩
  | cons k ks ih =>
    unfold lockKeysFinal at h
    split at h
    · cases h
    · next s1 h1 =>
      obtain ⟨e1, b1⟩ := lockGhostKey_ok h1
      obtain ⟨e, b⟩ := ih h
      exact ⟨e1.trans e, List.forall_mem_cons.mpr ⟨b1.mono e.ghost, b⟩⟩

theorem sideGate_ok {b : Bool} {next : Res} (h : sideGate side b next = .ok s') : next = .ok s' := by
  unfold sideGate at h
  split at h
  · split at h
    · exact h
    · cases h
    · cases h
  · exact h

theorem writeUTXOs_cons_ok {i : Nat} {o : OutSpec} {rest : List OutSpec}
    (h : writeUTXOs exc kd side tx i (o :: rest) s = .ok s') :
    (o.typ ∈ kd.skipped ∧ writeUTXOs exc kd side tx (i + 1) rest s = .ok s') ∨
    (o.typ ∉ kd.skipped ∧ ∃ s1, lockKeysFinal exc tx o.keys s = some s1 ∧
      writeUTXOs exc kd side tx (i + 1) rest { s1 with utxo := s1.utxo.set (tx, i) 0 } = .ok s') := by
  unfold writeUTXOs at h
  split at h
  · next hsk => exact Or.inl ⟨hsk, h⟩
  · next hns =>
    split at h
    · cases h
    · next s1 h1 => exact Or.inr ⟨hns, s1, h1, sideGate_ok h⟩

theorem writeUTXOs_rel {i : Nat} {outs : List OutSpec} (h : writeUTXOs exc kd side tx i outs s = .ok s') :
    GhostMono s s' ∧ s'.deposit = s.deposit ∧ s'.mint = s.mint ∧ s'.tx = s.tx ∧ s'.fin = s.fin ∧
    (∀ y, y.1 ≠ tx → s'.utxo.get y = s.utxo.get y) ∧
    (∀ y, (s'.utxo.get y).isSome → (s.utxo.get y).isSome ∨ y.1 = tx) := by
  induction outs generalizing s i with
  | nil =>
    cases h
    exact ⟨fun _ _ h => h, rfl, rfl, rfl, rfl, fun _ _ => rfl, fun _ h => Or.inl h⟩
  | cons o rest ih =>
    rcases writeUTXOs_cons_ok h with ⟨_, h⟩ | ⟨_, s1, h1, h⟩
    · exact ih h
    · have e1 := (lockKeysFinal_ok h1).1
      obtain ⟨g2, d2, m2, t2, f2, k2, n2⟩ := ih h
      -- the output written here, `(tx, i)`, is the only slot that differs between `s` and the
      -- database the rest of the loop starts from
      have hset : ∀ y, (tx, i) ≠ y → (s1.utxo.set (tx, i) 0).get y = s.utxo.get y :=
        fun y e => by rw [Map.get_set_ne _ _ e, e1.utxo]
      refine ⟨fun k v hv => g2 k v (e1.ghost k v hv), d2.trans e1.deposit, m2.trans e1.mint,
        t2.trans e1.tx, f2.trans e1.fin, fun y hy => ?_, fun y hy => ?_⟩
      · exact (k2 y hy).trans (hset y (fun e => hy (by rw [← e])))
      · by_cases e : (tx, i) = y
        · exact Or.inr (by rw [← e])
        · exact (n2 y hy).imp_left (fun h' => by rw [← hset y e]; exact h')

theorem writeUTXOs_bound {i : Nat} {outs : List OutSpec} (h : writeUTXOs exc kd side tx i outs s = .ok s') :
    ∀ o ∈ outs, o.typ ∉ kd.skipped → ∀ k ∈ o.keys, Bound exc tx true s' k := by
  induction outs generalizing s i with
  | nil => nofun
  | cons o' rest ih =>
    intro o ho hns
    rcases writeUTXOs_cons_ok h with ⟨hsk, h⟩ | ⟨_, s1, h1, h⟩
    · cases ho with
      | head => exact absurd hsk hns
      | tail _ ho => exact ih h o ho hns
    · cases ho with
      | head => exact fun k hk => ((lockKeysFinal_ok h1).2 k hk).mono (writeUTXOs_rel h).1
      | tail _ ho => exact ih h o ho hns

theorem finalizeTransaction_ok {t : Tx} (h : finalizeTransaction exc kd side s t = .ok s') :
    (s.fin.get t.id ≠ none ∧ s' = s) ∨
    (s.fin.get t.id = none ∧
      writeUTXOs exc kd side t.id 0 t.outs { s with fin := s.fin.set t.id () } = .ok s') := by
  unfold finalizeTransaction at h
  split at h
  · next v hv => cases h; exact Or.inl ⟨by rw [hv]; nofun, rfl⟩
  · next hfin =>
    split at h
    · exact Or.inr ⟨hfin, h⟩
    · cases h

/-- Effect of finalization code on the lock families.  It writes fresh outputs `(t, i)` of the
    transactions `t` it finalizes, so an output is only known to be left alone (`utxoKeep`) when
    its creator was finalized before: then `finalizeTransaction` is a no-op for that creator. -/
structure FinRel (s s' : Store) : Prop where
  deposit : s'.deposit = s.deposit
  mint : s'.mint = s.mint
  tx : s'.tx = s.tx
  finMono : ∀ h, (s.fin.get h).isSome → (s'.fin.get h).isSome
  utxoKeep : ∀ y, (s.fin.get y.1).isSome → s'.utxo.get y = s.utxo.get y
  utxoNew : ∀ y, (s'.utxo.get y).isSome → (s.utxo.get y).isSome ∨ (s'.fin.get y.1).isSome

namespace FinRel

theorem refl (s : Store) : FinRel s s :=
  ⟨rfl, rfl, rfl, fun _ h => h, fun _ _ => rfl, fun _ h => Or.inl h⟩

theorem trans {a b c : Store} (h1 : FinRel a b) (h2 : FinRel b c) : FinRel a c where
  deposit := h2.deposit.trans h1.deposit
  mint := h2.mint.trans h1.mint
  tx := h2.tx.trans h1.tx
  finMono := fun h hh => h2.finMono h (h1.finMono h hh)
  utxoKeep := fun y hy => (h2.utxoKeep y (h1.finMono _ hy)).trans (h1.utxoKeep y hy)
  utxoNew := fun y hy => by
    rcases h2.utxoNew y hy with h | h
    · exact (h1.utxoNew y h).imp_right (h2.finMono _)
    · exact Or.inr h

end FinRel

theorem finalizeTransaction_rel {t : Tx} (h : finalizeTransaction exc kd side s t = .ok s') :
    FinRel s s' ∧ GhostMono s s' := by
  rcases finalizeTransaction_ok h with ⟨_, rfl⟩ | ⟨hfin, h⟩
  · exact ⟨FinRel.refl _, fun _ _ h => h⟩
  · obtain ⟨g, d, m, tx, f, k, n⟩ := writeUTXOs_rel h
    replace f : s'.fin = s.fin.set t.id () := f
    have hid : (s'.fin.get t.id).isSome := by rw [f, Map.get_set_same]; rfl
    refine ⟨⟨d, m, tx, fun h' hh => ?_, fun y hy => ?_, fun y hy => ?_⟩, g⟩
    · by_cases e : t.id = h'
      · rw [← e]; exact hid
      · rw [f, Map.get_set_ne _ _ e]; exact hh
    · exact k y (fun e => by rw [e, hfin] at hy; cases hy)
    · exact (n y hy).imp_right (fun e => by rw [e]; exact hid)

theorem snapshotLoop_cons_ok {node : Nat} {t : Tx} {ts : List Tx}
    (h : snapshotLoop exc kd side node (t :: ts) s = .ok s') :
    ∃ s1, finalizeTransaction exc kd side s t = .ok s1 ∧
      snapshotLoop exc kd side node ts { s1 with unique := s1.unique.set (node, t.id) () } = .ok s' := by
  unfold snapshotLoop at h
  split at h
  · next s1 h1 => exact ⟨s1, h1, h⟩
  · next hnot => exact absurd h (hnot s')

theorem snapshotLoop_rel {node : Nat} {txs : List Tx} (h : snapshotLoop exc kd side node txs s = .ok s') :
    FinRel s s' ∧ GhostMono s s' := by
  induction txs generalizing s with
  | nil =>
    cases h
    exact ⟨FinRel.refl _, fun _ _ h => h⟩
  | cons t ts ih =>
    obtain ⟨s1, h1, h⟩ := snapshotLoop_cons_ok h
    obtain ⟨r1, g1⟩ := finalizeTransaction_rel h1
    obtain ⟨r2, g2⟩ := ih h
    -- `r2` starts from `s1` with the UNIQUE record added; field by field that is `s1`
    exact ⟨r1.trans ⟨r2.deposit, r2.mint, r2.tx, r2.finMono, r2.utxoKeep, r2.utxoNew⟩,
      fun k v hv => g2 k v (g1 k v hv)⟩

theorem exec_snapshot_ok {node : Nat} {txs : List Tx} (h : exec c s (.snapshot node txs side) = .ok s') :
    snapshotLoop c.exc c.kinds side node txs s = .ok s' := by
  simp only [exec, writeSnapshot] at h
  obtain ⟨_, h⟩ := of_ite_eq h nofun
  split at h
  · exact h
  · cases h

theorem exec_snapshot_bound {node : Nat} {t : Tx} (h : exec c s (.snapshot node [t] side) = .ok s')
    (hfin : s.fin.get t.id = none) :
    ∀ o ∈ t.outs, o.typ ∉ c.kinds.skipped → ∀ k ∈ o.keys, Bound c.exc t.id true s' k := by
  obtain ⟨s1, h1, h⟩ := snapshotLoop_cons_ok (exec_snapshot_ok h)
  cases h
  rcases finalizeTransaction_ok h1 with ⟨hf, _⟩ | ⟨_, h1⟩
  · exact absurd hfin hf
  · -- after the `writeUTXO` loop only the UNIQUE record of the node is written
    exact fun o ho hns k hk => (writeUTXOs_bound h1 o ho hns k hk).mono (fun _ _ h => h)

/-- What a successful call leaves alone: FINALIZATION records and ghost bindings are only ever
    added, and each lock family is written by its own call only (outputs also by finalization). -/
structure Frame (s s' : Store) (op : Op) : Prop where
  fin : ∀ h, (s.fin.get h).isSome → (s'.fin.get h).isSome
  ghost : GhostMono s s'
  utxo : s'.utxo = s.utxo ∨ (∃ ins tx f, op = .lockUTXOs ins tx f) ∨ ∃ n txs sd, op = .snapshot n txs sd
  deposit : s'.deposit = s.deposit ∨ ∃ d tx f, op = .lockDeposit d tx f
  mint : s'.mint = s.mint ∨ ∃ b a tx f, op = .lockMint b a tx f

theorem exec_frame (h : exec c s op = .ok s') : Frame s s' op := by
  cases op with
  | lockUTXOs ins tx fork =>
    have l := lockUTXOs_frame (h : lockUTXOs ins tx fork s = .ok s')
    exact ⟨fun _ hh => by rw [l.fin]; exact hh, fun _ _ hv => by rw [l.ghost]; exact hv,
      .inr (.inl ⟨_, _, _, rfl⟩), .inl l.deposit, .inl l.mint⟩
  | lockDeposit d tx fork =>
    rcases lockDeposit_ok (h : lockDeposit s d tx fork = .ok s') with
      ⟨_, rfl⟩ | ⟨_, rfl⟩ | ⟨_, _, _, _, _, rfl⟩ <;>
      exact ⟨fun _ hh => hh, fun _ _ hv => hv, .inl rfl, .inr ⟨_, _, _, rfl⟩, .inl rfl⟩
  | lockMint b a tx fork =>
    rcases lockMint_ok (h : lockMint s b a tx fork = .ok s') with
      ⟨_, rfl⟩ | ⟨_, rfl⟩ | ⟨_, _, _, _, _, rfl⟩ <;>
      exact ⟨fun _ hh => hh, fun _ _ hv => hv, .inl rfl, .inl rfl, .inr ⟨_, _, _, _, rfl⟩⟩
  | lockGhostKeys keys tx fork =>
    simp only [exec, lockGhostKeys] at h
    split at h
    · cases h
    · next s1 h1 =>
      cases h
      have e := (lockGhostLoop_ok h1).1
      exact ⟨fun _ hh => by rw [e.fin]; exact hh, e.ghost, .inl e.utxo, .inl e.deposit, .inl e.mint⟩
  | writeTx t =>
    rcases writeTransaction_ok (h : writeTransaction s t = .ok s') with rfl | rfl <;>
      exact ⟨fun _ hh => hh, fun _ _ hv => hv, .inl rfl, .inl rfl, .inl rfl⟩
  | snapshot node txs side =>
    obtain ⟨r, g⟩ := snapshotLoop_rel (exec_snapshot_ok h)
    exact ⟨r.finMono, g, .inr (.inr ⟨_, _, _, rfl⟩), .inl r.deposit, .inl r.mint⟩

theorem exec_fin_mono {t : Nat} (h : exec c s op = .ok s') (hfin : s.fin.get t ≠ none) :
    s'.fin.get t ≠ none :=
  Option.ne_none_iff_isSome.mpr ((exec_frame h).fin t (Option.ne_none_iff_isSome.mp hfin))

/-- Over a history every call of which leaves `t` protected at the start (it stays protected,
    FINALIZATION records being permanent), a property that calls keep for a protected `t` holds at
    the end. -/
theorem run_protected (c : Cfg) {P : Store → Prop} {ops : List Op} {t : Nat}
    (hP : ∀ op s s', exec c s op = .ok s' → Prot s op.isFork t → P s → P s')
    (g : ∀ op ∈ ops, Prot s op.isFork t) (h : P s) : P (run c s ops) :=
  (run_invariant c (P := fun s => (∀ op ∈ ops, Prot s op.isFork t) ∧ P s)
    (fun op hop s s' he ⟨g, h⟩ =>
      ⟨fun o ho => (g o ho).imp_right (exec_fin_mono he), hP op s s' he (g op hop) h⟩) ⟨g, h⟩).2

/-- every stored output was created by a transaction that has a FINALIZATION record
    (true of the empty database and preserved by every call: `exec_inv`) -/
def Inv (s : Store) : Prop := ∀ y, (s.utxo.get y).isSome → (s.fin.get y.1).isSome

theorem exec_inv (h : exec c s op = .ok s') (hi : Inv s) : Inv s' := by
  intro y hy
  rcases (exec_frame h).utxo with u | ⟨ins, tx, fork, rfl⟩ | ⟨node, txs, side, rfl⟩
  · rw [u] at hy; exact (exec_frame h).fin _ (hi y hy)
  · have l := lockUTXOs_frame (h : lockUTXOs ins tx fork s = .ok s')
    rw [l.fin]; rw [l.dom y] at hy; exact hi y hy
  · have r := (snapshotLoop_rel (exec_snapshot_ok h)).1
    exact (r.utxoNew y hy).elim (fun h' => r.finMono _ (hi y h')) id

theorem exec_holder_utxo {x : Nat × Nat} {t : Nat} (h : exec c s op = .ok s') (hi : Inv s)
    (hx : s.utxo.get x = some t) (h0 : t ≠ 0) (hp : Prot s op.isFork t) : s'.utxo.get x = some t := by
  rcases (exec_frame h).utxo with u | ⟨ins, tx, fork, rfl⟩ | ⟨node, txs, side, rfl⟩
  · rw [u]; exact hx
  · have h' : lockUTXOs ins tx fork s = .ok s' := h
    rw [(lockUTXOs_frame h').utxo x]
    split
    · next hm =>
      by_cases e : t = tx
      · rw [e]
      · obtain ⟨hf, hfin, _⟩ := lockUTXOs_displaced h' hm hx h0 e
        exact (hp.not_displaced hf hfin).elim
    · exact hx
  · rw [(snapshotLoop_rel (exec_snapshot_ok h)).1.utxoKeep x (hi x (by rw [hx]; rfl))]; exact hx

theorem exec_holder_deposit {d t : Nat} (h : exec c s op = .ok s') (hx : s.deposit.get d = some t)
    (hp : Prot s op.isFork t) : s'.deposit.get d = some t := by
  rcases (exec_frame h).deposit with e | ⟨d', tx, fork, rfl⟩
  · rw [e]; exact hx
  · rcases lockDeposit_ok (h : lockDeposit s d' tx fork = .ok s') with
      ⟨hg, rfl⟩ | ⟨_, rfl⟩ | ⟨cur, hg, _, hf, hfin, rfl⟩
    · exact Map.get_set_of_get hx (fun e => by rw [e, hx] at hg; cases hg)
    · exact hx
    · refine Map.get_set_of_get hx (fun e => ?_)
      rw [e, hx] at hg
      cases hg
      exact (hp.not_displaced hf hfin).elim

theorem exec_holder_mint {b : Nat} {v : Nat × Nat} (h : exec c s op = .ok s') (hx : s.mint.get b = some v)
    (hp : Prot s op.isFork v.1) : s'.mint.get b = some v := by
  rcases (exec_frame h).mint with e | ⟨b', a, tx, fork, rfl⟩
  · rw [e]; exact hx
  · rcases lockMint_ok (h : lockMint s b' a tx fork = .ok s') with
      ⟨hg, rfl⟩ | ⟨_, rfl⟩ | ⟨cur, hg, _, hf, hfin, rfl⟩
    · exact Map.get_set_of_get hx (fun e => by rw [e, hx] at hg; cases hg)
    · exact hx
    · refine Map.get_set_of_get hx (fun e => ?_)
      rw [e, hx] at hg
      cases hg
      exact (hp.not_displaced hf hfin).elim

end Mixin.Locks
