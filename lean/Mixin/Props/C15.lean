import Mixin.Proofs.Ledger
import Mixin.Facts.ExpectedC15
/-!
  C15 — finalizing a snapshot is atomic and idempotent.

  `WriteSnapshot` is `atomic st (writeSnapshotTxn …)`: the body between `NewTransaction(true)` and
  `Commit()` is a function `State → Except Fail State`, committed or discarded as a whole (the fact
  `Mixin.Facts.ExpectedC15.writeSnapshot_one_txn` pins that skeleton to the source; the harness compares
  the raw database before/after every failed write). The theorems below say what "all effects" are, that a
  transaction finalized once is never finalized again whatever happens later, and that re-finalizing is the
  identity on every ledger family.
-/
namespace Mixin.C15
open Mixin.Ledger

/-- every storage operation that can touch the ledger families -/
inductive Op
  | validate (tx : Tx) (fork : Bool)
  | lock (tx : Tx) (fork : Bool)
  | put (tx : Tx)
  | snap (s : Snap) (signers : Nat)

def applyOp (P : Params) (st : State) : Op → State
  | .validate tx f => (validate P st tx f).2
  | .lock tx f => (LockInputs st tx f).2
  | .put tx => (WriteTransaction st tx).2
  | .snap s sg => (WriteSnapshot P.cap st s sg).2

def run (P : Params) (st : State) (ops : List Op) : State := ops.foldl (applyOp P) st

/-- **All or nothing.** `WriteSnapshot` either fails and leaves the database exactly as it was, or succeeds
    and then *every* effect is there: each listed transaction has a finalization record and its per-node
    uniqueness record, the snapshot record, both topology entries and the work record exist. -/
theorem write_all_or_nothing (cap : Id → Nat) (st : State) (snap : Snap) (sg : Nat) (hk : TxsKeyed st) :
    let r := WriteSnapshot cap st snap sg
    (r.1 ≠ none ∧ r.2 = st) ∨
    (r.1 = none ∧
      (∀ t ∈ snap.txs, finalized r.2 t = true ∧ aget r.2.unique (t, snap.node) = some ()) ∧
      aget r.2.snaps snap.id = some snap ∧ aget r.2.topo snap.topo = some snap.id ∧
      aget r.2.snapTopo snap.id = some snap.topo ∧
      aget r.2.work (snap.node, snap.round, snap.ts) = some (snap.id, sg)) := by
  intro r
  rcases WriteSnapshot_cases cap st snap sg with ⟨e, h⟩ | ⟨s1, hfa, h⟩ <;> rw [show r = _ from h]
  · exact .inl ⟨nofun, rfl⟩
  · exact .inr ⟨rfl, finalizeAll_effects (st' := s1) hk hfa, aget_aset_eq _ _ _, aget_aset_eq _ _ _,
      aget_aset_eq _ _ _, aget_aset_eq _ _ _⟩

/-- a failed write changes nothing at all (every key family, including the ones the model lumps together) -/
theorem failed_write_discards (cap : Id → Nat) (st : State) (snap : Snap) (sg : Nat) (e : Fail)
    (h : (WriteSnapshot cap st snap sg).1 = some e) : (WriteSnapshot cap st snap sg).2 = st :=
  atomic_fail (Prod.ext h rfl)

/-- **Idempotence.** If `FINALIZATION[t]` exists, `finalizeTransaction` returns the state unchanged: no
    finalization, UTXO, ghost, total, asset-info, node, custodian or withdrawal key is written. -/
theorem finalize_idem (cap : Id → Nat) (st : State) (tx : Tx) (snap ts : Nat) (s : Id)
    (h : aget st.fin tx.id = some s) : finalizeTransaction cap st tx snap ts = .ok st :=
  finalizeTransaction_old h

theorem applyOp_cases (P : Params) (st : State) (op : Op) :
    (∃ u g d m x, applyOp P st op = { st with utxo := u, ghost := g, deposit := d, mint := m, txs := x }) ∨
    ∃ s sg s1, finalizeAll P.cap s.txs st s = .ok s1 ∧
      applyOp P st op = { s1 with snaps := aset s1.snaps s.id s, topo := aset s1.topo s.topo s.id,
                                  snapTopo := aset s1.snapTopo s.id s.topo,
                                  work := aset s1.work (s.node, s.round, s.ts) (s.id, sg) } := by
  cases op with
  | validate tx f => obtain ⟨g, e⟩ := validate_frame P st tx f; exact .inl ⟨_, g, _, _, _, e⟩
  | lock tx f => obtain ⟨u, d, m, x, e⟩ := LockInputs_frame st tx f; exact .inl ⟨u, _, d, m, x, e⟩
  | put tx => obtain ⟨x, e⟩ := WriteTransaction_frame st tx; exact .inl ⟨_, _, _, _, x, e⟩
  | snap s sg =>
    rcases WriteSnapshot_cases P.cap st s sg with ⟨_, e⟩ | ⟨s1, hfa, e⟩
    · exact .inl ⟨_, _, _, _, _, congrArg Prod.snd e⟩
    · exact .inr ⟨s, sg, s1, hfa, congrArg Prod.snd e⟩

/-- one step of any history keeps every existing finalization record -/
theorem applyOp_finMono (P : Params) (st : State) (op : Op) : FinMono st (applyOp P st op) := by
  rcases applyOp_cases P st op with ⟨_, _, _, _, _, e⟩ | ⟨_, _, _, hfa, e⟩ <;> rw [e]
  · exact FinMono.refl _
  · exact (finalizeAll_frame hfa).1

/-- **First finalization wins**, over any history of validations, locks (with or without fork), body
    writes and snapshot writes, successful or failed: once `FINALIZATION[t] = s`, it stays `s`. -/
theorem first_finalization_wins (P : Params) (ops : List Op) (st : State) (t s : Id)
    (h : aget st.fin t = some s) : aget (run P st ops).fin t = some s := by
  induction ops generalizing st with
  | nil => exact h
  | cons op r ih => exact ih (applyOp P st op) (applyOp_finMono P st op t s h)

/-- **Effects once.** A transaction finalized by an earlier snapshot is a no-op for every later
    finalization step, in whatever later snapshot and after whatever history it occurs: outputs, ghost keys,
    asset info, totals, node/custodian/withdrawal records are not applied again. -/
theorem refinalize_is_noop (P : Params) (ops : List Op) (st : State) (tx : Tx) (s snap ts : Nat)
    (h : aget st.fin tx.id = some s) :
    finalizeTransaction P.cap (run P st ops) tx snap ts = .ok (run P st ops) :=
  finalize_idem _ _ _ _ _ s (first_finalization_wins P ops st tx.id s h)

theorem finalizeAll_shared (cap : Id → Nat) (l : List Id) (st : State) (snap : Snap)
    (h : ∀ t ∈ l, ∃ tx, aget st.txs t = some tx ∧ finalized st tx.id = true) :
    ∃ u, finalizeAll cap l st snap = .ok { st with unique := u } := by
  induction l generalizing st with
  | nil => exact ⟨st.unique, by simp [finalizeAll]⟩
  | cons t r ih =>
    obtain ⟨tx, htx, hf⟩ := h t List.mem_cons_self
    obtain ⟨s, hs⟩ := Option.isSome_iff_exists.1 hf
    obtain ⟨u, hu⟩ := ih { st with unique := aset st.unique (t, snap.node) () }
      fun t' ht' => h t' (List.mem_cons_of_mem _ ht')
    exact ⟨u, by simp [finalizeAll, htx, finalizeTransaction_old hs, hu]⟩

/-- **Shared transactions, effects once.** A snapshot all of whose transactions were finalized by earlier
    snapshots (2, 3, 4… snapshots sharing them) leaves UTXO, ghost, finalization, asset info, totals,
    withdrawal and node/custodian families exactly as they were; only its own bookkeeping is added. -/
theorem shared_tx_effects_once (cap : Id → Nat) (st : State) (snap : Snap) (sg : Nat)
    (h : ∀ t ∈ snap.txs, ∃ tx, aget st.txs t = some tx ∧ finalized st tx.id = true) :
    let st' := (WriteSnapshot cap st snap sg).2
    st'.utxo = st.utxo ∧ st'.ghost = st.ghost ∧ st'.fin = st.fin ∧ st'.assetInfo = st.assetInfo ∧
    st'.total = st.total ∧ st'.withdrawal = st.withdrawal ∧ st'.nodeLog = st.nodeLog ∧
    st'.deposit = st.deposit ∧ st'.mint = st.mint ∧ st'.txs = st.txs := by
  intro st'
  obtain ⟨u, hu⟩ := finalizeAll_shared cap snap.txs st snap h
  rcases WriteSnapshot_cases cap st snap sg with ⟨_, e⟩ | ⟨s1, hfa, e⟩ <;>
    rw [show st' = _ from congrArg Prod.snd e]
  · simp
  · cases hu.symm.trans hfa
    simp

/-! ### non-vacuity: a concrete ledger where the same deposit is shared by two snapshots -/

def capEx : Id → Nat := fun _ => 1000
def dep : Tx := ⟨10, 2, [.deposit 1 2 102 300], [⟨.script, 300, [501]⟩], [], true, true⟩
def st0 : State := { txs := [(10, dep)] }
def snapA : Snap := ⟨100, 1, 1, 11, 8, [10]⟩
def snapB : Snap := ⟨101, 2, 1, 12, 9, [10]⟩
def stA : State := (WriteSnapshot capEx st0 snapA 3).2
def stB : State := (WriteSnapshot capEx stA snapB 3).2

example : (WriteSnapshot capEx st0 snapA 3).1 = none := by decide
example : TxsKeyed st0 := by
  intro k tx h
  simp only [st0, aget] at h
  split at h
  · cases h; rename_i e; exact e
  · cases h
example : aget stA.fin 10 = some 100 ∧ readTotal stA 2 = 300 := by decide
/- the second snapshot succeeds, keeps the first finalization record and does not add 300 again -/
example : (WriteSnapshot capEx stA snapB 3).1 = none ∧ aget stB.fin 10 = some 100 ∧ readTotal stB 2 = 300 ∧
    stB.utxo = stA.utxo := by decide
/- a batch whose second member fails (unknown asset info for a transfer) leaves nothing behind -/
def bad : Tx := ⟨11, 7, [.utxo 10 0], [⟨.script, 300, [502]⟩], [], true, true⟩
example : (WriteSnapshot capEx { st0 with txs := [(10, dep), (11, bad)] } ⟨100, 1, 1, 11, 8, [10, 11]⟩ 3).1 = some .panic := by
  decide

end Mixin.C15
