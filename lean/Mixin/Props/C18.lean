import Mixin.Proofs.RoundHash
import Mixin.Facts.ExpectedC18
/-!
# C18 — round hashes are a deterministic function of the round's snapshot set

Theorems about `Mixin.Model.RoundHash` (model of `common/round.go:ComputeRoundHash`,
`storage/badger_validation.go:computeRoundHash`, `kernel/round.go:CacheRound.asFinal`).
The hash function `H` is an arbitrary parameter (blake3 in the code): nothing below needs
any property of it.
-/
namespace Mixin.C18
open Mixin.BytesSnap Mixin.RoundHash

/-- The result is the specification applied to the multiset of (timestamp, hash) pairs:
    `spec` sorts the pairs lexicographically and chains `H` over the hashes; start and end are
    the first and last timestamp; `none` (panic) on the empty round or when the span reaches the
    round gap. The defensive panics inside the hashing loop are unreachable. -/
theorem roundhash_spec {α : Type} (v : View α) (H : Bytes → Bytes) (node : Bytes) (number : Nat)
    (l : List α) :
    computeRoundHashG v H node number l = spec H node number (l.map (key v)) := by
  unfold spec computeRoundHashG
  have hs := sortKeys_sorted (l.map (key v))
  rw [← map_key_sortSnaps] at hs ⊢
  generalize sortSnaps v l = sorted at hs ⊢
  cases sorted with
  | nil => rfl
  | cons first rest =>
    -- the keys are sorted, so no timestamp exceeds the last and the version panic cannot fire
    have hlast := sorted_ts_le_last hs
    rw [lastOr_map] at hlast
    rw [List.map_cons, specSorted, lastOr_map]
    have hall : ∀ s ∈ first :: rest,
        v.version s ≤ maxVersion v (v.version first) (first :: rest) ∧
        v.ts s ≤ v.ts (lastOr first rest) := fun s hs' =>
      ⟨(maxVersion_ge v _ _).2 s hs', hlast (key v s) (List.mem_map_of_mem hs')⟩
    simp only [key, chain_ok v H _ _ _ _ hall, foldKeys, List.foldl_cons, List.foldl_map]

/-- Two supplies — possibly of different element types — whose (timestamp, hash) pairs are
    permutations of each other give the same hash, start and end (and panic alike). -/
theorem roundhash_keys_perm {α β : Type} (v : View α) (w : View β) (H : Bytes → Bytes)
    (node : Bytes) (number : Nat) (l₁ : List α) (l₂ : List β)
    (h : (l₁.map (key v)).Perm (l₂.map (key w))) :
    computeRoundHashG v H node number l₁ = computeRoundHashG w H node number l₂ := by
  rw [roundhash_spec, roundhash_spec, spec, sortKeys_eq_of_perm h, spec]

/-- Supplying the same snapshots in any other order gives the same
    round hash, start and end. -/
theorem roundhash_perm (H : Bytes → Bytes) (node : Bytes) (number : Nat) {l₁ l₂ : List Snap}
    (h : l₁.Perm l₂) :
    computeRoundHash H node number l₁ = computeRoundHash H node number l₂ :=
  roundhash_keys_perm snapView snapView H node number l₁ l₂ (h.map _)

/-- the same for the storage validator -/
theorem roundhash_perm_storage (H : Bytes → Bytes) (node : Bytes) (number : Nat)
    {l₁ l₂ : List SnapTopo} (h : l₁.Perm l₂) :
    computeRoundHashStorage H node number l₁ = computeRoundHashStorage H node number l₂ :=
  roundhash_keys_perm topoView topoView H node number l₁ l₂ (h.map _)

/- non-vacuity: a rotation of three snapshots, two of them with equal timestamps -/
def exA : Snap := ⟨2, 100, List.replicate 32 3, 7⟩
def exB : Snap := ⟨2, 100, List.replicate 32 2, 8⟩
def exC : Snap := ⟨1, 101, List.replicate 32 1, 9⟩
example : [exA, exB, exC].Perm [exC, exA, exB] :=
  List.perm_append_comm (l₁ := [exA, exB]) (l₂ := [exC])

/-- The result depends on the snapshots only through their (timestamp, hash)
    pairs: versions, signatures, transactions, references, topology (`rest`, `topo`) are
    irrelevant. -/
theorem roundhash_fields_only (H : Bytes → Bytes) (node : Bytes) (number : Nat) {l₁ l₂ : List Snap}
    (h : l₁.map (fun s => (s.ts, s.hash)) = l₂.map (fun s => (s.ts, s.hash))) :
    computeRoundHash H node number l₁ = computeRoundHash H node number l₂ :=
  roundhash_keys_perm snapView snapView H node number l₁ l₂ (.of_eq h)

example : [exA, exB].map (fun s => (s.ts, s.hash)) =
    [{ exA with version := 9, rest := 1 }, { exB with rest := 5 }].map (fun s => (s.ts, s.hash)) :=
  rfl

/-- The startup graph validator (`storage.computeRoundHash`) applied to
    snapshots-with-topology returns exactly what the live node (`common.ComputeRoundHash`)
    returns on the underlying snapshots — in whatever order each of them reads the round. -/
theorem validator_agrees (H : Bytes → Bytes) (node : Bytes) (number : Nat)
    (ls : List SnapTopo) (lc : List Snap) (h : (ls.map (·.snap)).Perm lc) :
    computeRoundHashStorage H node number ls = computeRoundHash H node number lc := by
  refine roundhash_keys_perm topoView snapView H node number ls lc ?_
  have := h.map (key snapView)
  rwa [List.map_map] at this

theorem validator_agrees_same_order (H : Bytes → Bytes) (node : Bytes) (number : Nat)
    (ls : List SnapTopo) :
    computeRoundHashStorage H node number ls = computeRoundHash H node number (ls.map (·.snap)) :=
  validator_agrees H node number ls _ (List.Perm.refl _)

/-- `CacheRound.asFinal` is the common computation on a non-empty round and `nil` on an empty one -/
theorem asFinal_agrees (H : Bytes → Bytes) (node : Bytes) (number : Nat) (l : List Snap) :
    asFinal H node number l =
      if l = [] then some none else (computeRoundHash H node number l).map some := by
  unfold asFinal
  cases l with
  | nil => rfl
  | cons a t =>
    simp only [List.length_cons, Nat.add_one_ne_zero, if_false, reduceCtorEq]
    cases computeRoundHash H node number (a :: t) <;> rfl

/-- Start and end bound every timestamp, the round spans less than the gap, and the hash is
    the `H`-chain over the sorted hashes starting from `H (node ‖ be64 number)`. -/
theorem roundhash_value (H : Bytes → Bytes) (node : Bytes) (number : Nat) (l : List Snap)
    {s e : Nat} {h : Bytes} (hr : computeRoundHash H node number l = some (s, e, h)) :
    (∀ x ∈ l, s ≤ x.ts ∧ x.ts ≤ e) ∧
    (∃ x ∈ l, x.ts = s) ∧ (∃ x ∈ l, x.ts = e) ∧
    e < (s + roundGap) % 2 ^ 64 ∧
    h = foldKeys H (H (node ++ beBytes 8 number)) (sortKeys (l.map (fun x => (x.ts, x.hash)))) := by
  rw [computeRoundHash, roundhash_spec] at hr
  obtain ⟨k, ks, hk, rfl, rfl, hgap, rfl⟩ := specSorted_some hr
  have hsorted := hk ▸ sortKeys_sorted (l.map (key snapView))
  have hperm := hk ▸ sortKeys_perm (l.map (key snapView))
  have memkey : ∀ x ∈ l, key snapView x ∈ k :: ks :=
    fun x hx => hperm.mem_iff.mpr (List.mem_map_of_mem hx)
  have ofkey : ∀ q ∈ k :: ks, ∃ x ∈ l, x.ts = q.1 := fun q hq =>
    let ⟨x, hx, hxe⟩ := List.mem_map.mp (hperm.mem_iff.mp hq)
    ⟨x, hx, hxe ▸ rfl⟩
  exact ⟨fun x hx =>
      ⟨sorted_first_le hsorted _ (memkey x hx), sorted_ts_le_last hsorted _ (memkey x hx)⟩,
    ofkey k List.mem_cons_self, ofkey _ (lastOr_mem k ks), hgap, rfl⟩

/-- the empty round has no hash (index out of range in the Go code; callers guard it) -/
theorem empty_round_panics (H : Bytes → Bytes) (node : Bytes) (n : Nat) :
    computeRoundHash H node n [] = none := by
  rw [computeRoundHash, computeRoundHashG, sortSnaps, List.mergeSort_nil]

/-- non-vacuity: a non-empty round inside the gap has a hash -/
theorem nonempty_round_has_hash (H : Bytes → Bytes) (node : Bytes) (n : Nat) (a : Snap)
    (ha : a.ts < 2 ^ 64 - roundGap) :
    ∃ h, computeRoundHash H node n [a] = some (a.ts, a.ts, h) := by
  have hn : ¬ (a.ts ≥ (a.ts + roundGap) % 2 ^ 64) := by
    rw [Nat.mod_eq_of_lt (Nat.add_lt_of_lt_sub ha)]
    exact Nat.not_le.mpr (Nat.lt_add_of_pos_right Mixin.Facts.ExpectedC18.roundGap_pos)
  refine ⟨foldKeys H (H (node ++ beBytes 8 n)) [(a.ts, a.hash)], ?_⟩
  rw [computeRoundHash, roundhash_spec, spec, List.map_singleton, sortKeys,
    List.mergeSort_singleton, specSorted]
  exact if_neg hn

end Mixin.C18
