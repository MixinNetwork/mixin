import Mixin.Model.Finality
import Mixin.Facts.ExpectedC09
/-!
# C09 — a snapshot is final only with a threshold certificate from historical keys

`verifyFinalization` of `Mixin.Model.Finality` over the membership views of
`Mixin.Model.Membership`. Signature validity is the oracle `O` (answers of the real crypto).
`certTs` is the snapshot timestamp (minus one minute for the one hard-coded mainnet hash).
-/
namespace Mixin.C09
open Mixin.Membership Mixin.Finality

theorem selectKeys_eq (publics idx : List Nat) :
    selectKeys publics idx =
      if ∀ i ∈ idx, i < publics.length then some (idx.map fun i => publics.getD i 0) else none := by
  induction idx with
  | nil => rfl
  | cons i rest ih =>
    rw [selectKeys, ih]
    simp only [List.forall_mem_cons]
    by_cases hi : i < publics.length
    · by_cases hr : ∀ j ∈ rest, j < publics.length
      · rw [if_pos hr, if_pos ⟨hi, hr⟩]; simp [hi, List.getD]
      · rw [if_neg hr, if_neg (not_and_of_not_right _ hr)]; simp
    · rw [if_neg (not_and_of_not_left _ hi)]; simp [hi]

/-- the keys a mask selects from a key vector -/
def masked (publics : List Nat) (mask : Nat) : List Nat := (maskKeys mask).map (fun i => publics.getD i 0)

/-- `FullVerify` succeeds exactly when the threshold is positive, the mask names at least threshold
    positions, every position lies inside the key vector, and the aggregate signature verifies over
    the hash with exactly the masked keys. -/
theorem fullVerify_iff (O : Oracle) (publics : List Nat) (thr hash mask sig : Nat) :
    fullVerify O publics thr hash mask sig = true ↔
      0 < thr ∧ thr ≤ (maskKeys mask).length ∧ (∀ i ∈ maskKeys mask, i < publics.length) ∧
      O (masked publics mask) hash sig = true := by
  unfold fullVerify masked
  by_cases h0 : thr = 0
  · rw [if_pos h0]; exact ⟨nofun, fun h => absurd h.1 (by omega)⟩
  by_cases h1 : (maskKeys mask).length < thr
  · rw [if_neg h0, if_pos h1]; exact ⟨nofun, fun h => absurd h.2.1 (by omega)⟩
  have hne : ¬ (maskKeys mask).isEmpty = true := by
    rw [List.isEmpty_iff, ← List.length_eq_zero_iff]; omega
  rw [if_neg h0, if_neg h1, if_neg hne, selectKeys_eq]
  by_cases hr : ∀ i ∈ maskKeys mask, i < publics.length
  · rw [if_pos hr]; exact ⟨fun h => ⟨by omega, by omega, hr, h⟩, fun h => h.2.2.2⟩
  · rw [if_neg hr]; exact ⟨nofun, fun h => absurd h.2.2.1 hr⟩

theorem freshVerify_true {O : Oracle} {cids publics : List Nat} {thr hash mask sig : Nat}
    (h : fullVerify O publics thr hash mask sig = true) :
    freshVerify O cids publics thr hash mask sig = ((maskKeys mask).map (fun k => cids.getD k 0), true) := by
  rw [freshVerify, if_pos h]

theorem freshVerify_false {O : Oracle} {cids publics : List Nat} {thr hash mask sig : Nat}
    (h : fullVerify O publics thr hash mask sig = false) :
    freshVerify O cids publics thr hash mask sig = ([], false) := by
  rw [freshVerify, h]; rfl

theorem freshVerify_snd (O : Oracle) (cids publics : List Nat) (thr hash mask sig : Nat) :
    (freshVerify O cids publics thr hash mask sig).2 = fullVerify O publics thr hash mask sig := by
  cases h : fullVerify O publics thr hash mask sig
  · rw [freshVerify_false h]
  · rw [freshVerify_true h]

def enc (r : List Nat × Bool) : Option (List Nat) := if r.2 then some r.1 else none

/-- memo-table invariant: every entry is the fresh result for its key. The key holds hash, signature,
    all public keys, threshold and mask; signer ids are not in the key but are a function `idOf` of
    the public keys (`IdForNetwork` = hash of the signer address for the node's network). -/
def TableOk (O : Oracle) (idOf : Nat → Nat) (t : Table) : Prop :=
  ∀ e ∈ t, e.2 = enc (freshVerify O (e.1.publics.map idOf) e.1.publics e.1.thr e.1.hash e.1.mask e.1.sig)

theorem tableOk_nil (O : Oracle) (idOf : Nat → Nat) : TableOk O idOf [] := nofun

/-- evicting entries keeps the invariant -/
theorem tableOk_sublist {O : Oracle} {idOf : Nat → Nat} {t t' : Table} (h : TableOk O idOf t)
    (hs : t'.Sublist t) : TableOk O idOf t' := fun e he => h e (hs.subset he)

/-- a successful fresh result names as many signers as the mask has bits, and at least one: the
    hit branch decodes what the miss branch stored -/
theorem decodeHit_enc (O : Oracle) (cids publics : List Nat) (thr hash mask sig : Nat) :
    decodeHit mask (enc (freshVerify O cids publics thr hash mask sig)) =
      freshVerify O cids publics thr hash mask sig := by
  cases h : fullVerify O publics thr hash mask sig
  · rw [freshVerify_false h]; rfl
  · rw [freshVerify_true h]
    have hpos := (fullVerify_iff O publics thr hash mask sig).1 h
    have hlen : 0 < (maskKeys mask).length := by omega
    simp [enc, decodeHit, hlen]

theorem tableGet_some {t : Table} {k : CKey} {v : Option (List Nat)} (h : tableGet t k = some v) :
    (k, v) ∈ t := by
  unfold tableGet at h
  split at h
  · next e he =>
    cases h
    have hk : e.1 = k := by simpa using List.find?_some he
    rw [← hk]; exact List.mem_of_find?_eq_some he
  · cases h

theorem cacheVerifyCosi_hit {O : Oracle} {t : Table} {hash sig mask : Nat} {cids publics : List Nat} {thr : Nat}
    {v : Option (List Nat)} (h : tableGet t ⟨hash, sig, publics, thr, mask⟩ = some v) :
    cacheVerifyCosi O t hash sig mask cids publics thr = (decodeHit mask v, t) := by
  simp only [cacheVerifyCosi, h]

theorem cacheVerifyCosi_miss {O : Oracle} {t : Table} {hash sig mask : Nat} {cids publics : List Nat} {thr : Nat}
    (h : tableGet t ⟨hash, sig, publics, thr, mask⟩ = none) :
    cacheVerifyCosi O t hash sig mask cids publics thr =
      (freshVerify O cids publics thr hash mask sig,
        (⟨hash, sig, publics, thr, mask⟩, enc (freshVerify O cids publics thr hash mask sig)) :: t) := by
  simp only [cacheVerifyCosi, h, enc]

/-- with a table satisfying the invariant (in particular the empty table, or
    any table after arbitrary evictions), `cacheVerifyCosi` returns what a fresh verification returns
    and leaves a table satisfying the invariant. -/
theorem cache_transparent (O : Oracle) (idOf : Nat → Nat) (t : Table) (ht : TableOk O idOf t)
    (hash sig mask : Nat) (cids publics : List Nat) (thr : Nat) (hid : cids = publics.map idOf) :
    (cacheVerifyCosi O t hash sig mask cids publics thr).1 = freshVerify O cids publics thr hash mask sig ∧
    TableOk O idOf (cacheVerifyCosi O t hash sig mask cids publics thr).2 := by
  subst hid
  cases hg : tableGet t ⟨hash, sig, publics, thr, mask⟩ with
  | some v =>
    have he : v = enc (freshVerify O (publics.map idOf) publics thr hash mask sig) :=
      ht _ (tableGet_some hg)
    rw [cacheVerifyCosi_hit hg, he]
    exact ⟨decodeHit_enc O _ publics thr hash mask sig, ht⟩
  | none =>
    rw [cacheVerifyCosi_miss hg]
    refine ⟨rfl, fun e he => ?_⟩
    rcases List.mem_cons.1 he with rfl | he
    · rfl
    · exact ht e he

theorem cache_table_mem {O : Oracle} {t : Table} {hash sig mask : Nat} {cids publics : List Nat} {thr : Nat}
    {e : CKey × Option (List Nat)} (h : e ∈ (cacheVerifyCosi O t hash sig mask cids publics thr).2) :
    e ∈ t ∨ e.1 = ⟨hash, sig, publics, thr, mask⟩ := by
  cases hg : tableGet t ⟨hash, sig, publics, thr, mask⟩ with
  | some v => rw [cacheVerifyCosi_hit hg] at h; exact Or.inl h
  | none =>
    rw [cacheVerifyCosi_miss hg] at h
    rcases List.mem_cons.1 h with rfl | h
    · exact Or.inr rfl
    · exact Or.inl h

/-- the guards in front of the certificate check -/
def guardsOk (fc : FConsts) (n : Node) (s : Snap) : Prop :=
  s.version = fc.version ∧ s.hasSig = true ∧ s.mask ≠ 0 ∧ n.epoch ≤ certTs fc s

/-- ids are a function of the public keys in every key vector of the chain -/
def KeysIdOf (c : Consts) (idOf : Nat → Nat) (n : Node) (ch : Chain) : Prop :=
  ∀ round ts, (consensusKeys c n ch round ts).map Prod.fst = ((consensusKeys c n ch round ts).map Prod.snd).map idOf

/-- a certificate for the key vector and threshold of timestamp `ts` -/
def CertAt (c : Consts) (O : Oracle) (n : Node) (ch : Chain) (s : Snap) (ts : Nat) : Prop :=
  let keys := consensusKeys c n ch s.round ts
  consensusThreshold c n ts true ≤ (maskKeys s.mask).length ∧
  (∀ i ∈ maskKeys s.mask, i < keys.length) ∧
  O (masked (keys.map Prod.snd) s.mask) s.hash s.sig = true

theorem certAt_iff (c : Consts) (O : Oracle) (n : Node) (ch : Chain) (s : Snap) (ts : Nat) :
    fullVerify O ((consensusKeys c n ch s.round ts).map Prod.snd) (consensusThreshold c n ts true) s.hash s.mask s.sig = true ↔
      CertAt c O n ch s ts := by
  have hpos : 0 < consensusThreshold c n ts true := by
    simp only [consensusThreshold]; split <;> omega
  rw [fullVerify_iff, List.length_map]
  exact and_iff_right hpos

instance (fc : FConsts) (n : Node) (s : Snap) : Decidable (guardsOk fc n s) := by
  unfold guardsOk; exact inferInstance

instance (c : Consts) (O : Oracle) (n : Node) (ch : Chain) (s : Snap) (ts : Nat) : Decidable (CertAt c O n ch s ts) := by
  unfold CertAt; exact inferInstance

/-- one call of the verifier: key vector and threshold of timestamp `ts` -/
def attempt (c : Consts) (O : Oracle) (n : Node) (ch : Chain) (t : Table) (s : Snap) (ts : Nat) :
    (List Nat × Bool) × Table :=
  cacheVerifyCosi O t s.hash s.sig s.mask
    ((consensusKeys c n ch s.round ts).map Prod.fst) ((consensusKeys c n ch s.round ts).map Prod.snd)
    (consensusThreshold c n ts true)

theorem attempt_spec {c : Consts} {O : Oracle} {idOf : Nat → Nat} {n : Node} {ch : Chain} {t : Table}
    (ht : TableOk O idOf t) (hid : KeysIdOf c idOf n ch) (s : Snap) (ts : Nat) :
    (attempt c O n ch t s ts).1 =
      (if CertAt c O n ch s ts then
        ((maskKeys s.mask).map (fun k => ((consensusKeys c n ch s.round ts).map Prod.fst).getD k 0), true)
       else ([], false)) ∧
    TableOk O idOf (attempt c O n ch t s ts).2 := by
  obtain ⟨h1, h2⟩ := cache_transparent O idOf t ht s.hash s.sig s.mask _ _
    (consensusThreshold c n ts true) (hid s.round ts)
  refine ⟨?_, h2⟩
  rw [attempt, h1, freshVerify]
  simp only [certAt_iff]

theorem vf_guard_fail (c : Consts) (fc : FConsts) (O : Oracle) (n : Node) (ch : Chain) (t : Table) (s : Snap)
    (h : ¬ guardsOk fc n s) : verifyFinalization c fc O n ch t s = (([], false), t) := by
  unfold verifyFinalization
  simp only [guardsOk, Classical.not_and_iff_not_or_not, Classical.not_not, Nat.not_le] at h
  rcases h with h | h | h | h <;> simp [h]

theorem vf_guard_ok (c : Consts) (fc : FConsts) (O : Oracle) (n : Node) (ch : Chain) (t : Table) (s : Snap)
    (h : guardsOk fc n s) :
    verifyFinalization c fc O n ch t s =
      if (attempt c O n ch t s (certTs fc s)).1.2 || usePredictive c n (certTs fc s) then
        attempt c O n ch t s (certTs fc s)
      else if (certTs fc s - n.epoch) / c.hour % 24 < c.acceptBegin || (certTs fc s - n.epoch) / c.hour % 24 > c.acceptEnd
        then attempt c O n ch t s (certTs fc s)
      else if (consensusKeys c n ch s.round (legacyTs c n (certTs fc s))).length ≤
          (consensusKeys c n ch s.round (certTs fc s)).length then attempt c O n ch t s (certTs fc s)
      else attempt c O n ch (attempt c O n ch t s (certTs fc s)).2 s (legacyTs c n (certTs fc s)) := by
  obtain ⟨hv, hs, hm, he⟩ := h
  unfold verifyFinalization attempt
  simp only [hv, hs, hm, Nat.not_lt.2 he, ne_eq, not_true_eq_false, if_false, Bool.not_true, Bool.false_or,
    decide_false, Bool.false_eq_true]

theorem mem_attempts {c : Consts} {n : Node} {ch : Chain} {round ts : Nat} {a : List (Nat × Nat) × Nat} :
    a ∈ finalizationAttempts c n ch round ts ↔ ¬ ts < n.epoch ∧
      (a = (consensusKeys c n ch round ts, consensusThreshold c n ts true) ∨
        a = (consensusKeys c n ch round (legacyTs c n ts), consensusThreshold c n (legacyTs c n ts) true) ∧
          usePredictive c n ts = false ∧
          ((ts - n.epoch) / c.hour % 24 < c.acceptBegin || (ts - n.epoch) / c.hour % 24 > c.acceptEnd) = false ∧
          (consensusKeys c n ch round ts).length < (consensusKeys c n ch round (legacyTs c n ts)).length) := by
  unfold finalizationAttempts
  by_cases h : ts < n.epoch
  · simp [h]
  by_cases hp : usePredictive c n ts = true
  · simp [h, hp]
  by_cases hw : ((ts - n.epoch) / c.hour % 24 < c.acceptBegin || (ts - n.epoch) / c.hour % 24 > c.acceptEnd) = true
  · simp [h, hp, hw]
  by_cases hl : (consensusKeys c n ch round (legacyTs c n ts)).length ≤ (consensusKeys c n ch round ts).length
  · simp [h, hp, hw, hl, Nat.not_lt.2 hl]
  · simp [h, hp, hw, hl, Nat.lt_of_not_le hl]

theorem vf_cases (c : Consts) (fc : FConsts) (O : Oracle) (n : Node) (ch : Chain) (t : Table) (s : Snap)
    (h : guardsOk fc n s) :
    verifyFinalization c fc O n ch t s = attempt c O n ch t s (certTs fc s) ∨
    ((consensusKeys c n ch s.round (legacyTs c n (certTs fc s)),
        consensusThreshold c n (legacyTs c n (certTs fc s)) true) ∈
        finalizationAttempts c n ch s.round (certTs fc s) ∧
      verifyFinalization c fc O n ch t s =
        attempt c O n ch (attempt c O n ch t s (certTs fc s)).2 s (legacyTs c n (certTs fc s))) := by
  rw [vf_guard_ok c fc O n ch t s h]
  split
  · exact Or.inl rfl
  next hA =>
  split
  · exact Or.inl rfl
  next hB =>
  split
  · exact Or.inl rfl
  next hC =>
  simp only [Bool.or_eq_true, not_or, Bool.not_eq_true] at hA
  exact Or.inr ⟨mem_attempts.2 ⟨Nat.not_lt.2 h.2.2.2,
    Or.inr ⟨rfl, hA.2, Bool.not_eq_true _ ▸ hB, Nat.lt_of_not_le hC⟩⟩, rfl⟩

/-- In the predictive signer-set mode (every non-mainnet network, mainnet after the fork) the verdict
    of `verifyFinalization`, through any table satisfying the invariant, is exactly: guards pass and
    there is a threshold certificate for the consensus key vector at the snapshot's timestamp; the
    reported signers are the ids at the masked positions (empty on rejection). -/
theorem final_iff (c : Consts) (fc : FConsts) (O : Oracle) (idOf : Nat → Nat) (n : Node) (ch : Chain)
    (t : Table) (s : Snap) (ht : TableOk O idOf t) (hid : KeysIdOf c idOf n ch)
    (hpred : usePredictive c n (certTs fc s) = true) :
    (verifyFinalization c fc O n ch t s).1 =
      (if guardsOk fc n s ∧ CertAt c O n ch s (certTs fc s) then
        ((maskKeys s.mask).map (fun k => ((consensusKeys c n ch s.round (certTs fc s)).map Prod.fst).getD k 0), true)
       else ([], false)) ∧
    TableOk O idOf (verifyFinalization c fc O n ch t s).2 := by
  by_cases hg : guardsOk fc n s
  · rw [vf_guard_ok c fc O n ch t s hg, hpred, Bool.or_true, if_pos rfl]
    simp only [hg, true_and]
    exact attempt_spec ht hid s _
  · rw [vf_guard_fail c fc O n ch t s hg, if_neg fun h => hg h.1]
    exact ⟨rfl, ht⟩

/-- accepted as final (predictive mode) only with version, signature and non-zero mask
    present, timestamp not before the epoch, at least `ConsensusThreshold(ts, true)` mask bits, every
    bit inside `ConsensusKeys(round, ts)`, and the aggregate signature valid over the snapshot hash
    with exactly the masked keys; the signers are the ids at those positions. -/
theorem final_sound (c : Consts) (fc : FConsts) (O : Oracle) (idOf : Nat → Nat) (n : Node) (ch : Chain)
    (t : Table) (s : Snap) (ht : TableOk O idOf t) (hid : KeysIdOf c idOf n ch)
    (hpred : usePredictive c n (certTs fc s) = true)
    (hfin : (verifyFinalization c fc O n ch t s).1.2 = true) :
    guardsOk fc n s ∧ CertAt c O n ch s (certTs fc s) ∧
    (verifyFinalization c fc O n ch t s).1.1 =
      (maskKeys s.mask).map (fun k => ((consensusKeys c n ch s.round (certTs fc s)).map Prod.fst).getD k 0) := by
  rw [(final_iff c fc O idOf n ch t s ht hid hpred).1] at hfin ⊢
  split at hfin
  · next hc => rw [if_pos hc]; exact ⟨hc.1, hc.2, rfl⟩
  · cases hfin

/-- whatever is changed — mask, signature, hash, key vector (through timestamp,
    round or history) — if for the changed snapshot the oracle rejects the masked keys, or the mask
    has fewer bits than the threshold, or a bit points outside the key vector, the snapshot is
    rejected (predictive mode, any table satisfying the invariant). -/
theorem final_sensitive (c : Consts) (fc : FConsts) (O : Oracle) (idOf : Nat → Nat) (n : Node) (ch : Chain)
    (t : Table) (s : Snap) (ht : TableOk O idOf t) (hid : KeysIdOf c idOf n ch)
    (hpred : usePredictive c n (certTs fc s) = true)
    (hbad : O (masked ((consensusKeys c n ch s.round (certTs fc s)).map Prod.snd) s.mask) s.hash s.sig = false ∨
      (maskKeys s.mask).length < consensusThreshold c n (certTs fc s) true ∨
      (∃ i ∈ maskKeys s.mask, (consensusKeys c n ch s.round (certTs fc s)).length ≤ i)) :
    (verifyFinalization c fc O n ch t s).1 = ([], false) := by
  rw [(final_iff c fc O idOf n ch t s ht hid hpred).1, if_neg]
  rintro ⟨_, hc1, hc2, hc3⟩
  rcases hbad with hb | hb | ⟨i, hi, hb⟩
  · rw [hb] at hc3; cases hc3
  · exact Nat.not_lt.2 hc1 hb
  · exact Nat.not_lt.2 hb (hc2 i hi)

/-- a remembered result never changes verdict or signers: from any table satisfying the invariant
    the result equals the result from the empty table -/
theorem final_cache_transparent (c : Consts) (fc : FConsts) (O : Oracle) (idOf : Nat → Nat) (n : Node) (ch : Chain)
    (t : Table) (s : Snap) (ht : TableOk O idOf t) (hid : KeysIdOf c idOf n ch)
    (hpred : usePredictive c n (certTs fc s) = true) :
    (verifyFinalization c fc O n ch t s).1 = (verifyFinalization c fc O n ch [] s).1 := by
  rw [(final_iff c fc O idOf n ch t s ht hid hpred).1,
    (final_iff c fc O idOf n ch [] s (tableOk_nil O idOf) hid hpred).1]

/-
Legacy mode (mainnet before `mainnetConsensusNodeRemovalSignerSetForkAt`), stated separately: the
certificate may be for the key vector at the snapshot timestamp or, inside the node-operation window
and only when that vector is longer, for the key vector at the hour before the window.
-/
theorem final_sound_legacy_partial (c : Consts) (fc : FConsts) (O : Oracle) (idOf : Nat → Nat) (n : Node) (ch : Chain)
    (t : Table) (s : Snap) (ht : TableOk O idOf t) (hid : KeysIdOf c idOf n ch)
    (hfin : (verifyFinalization c fc O n ch t s).1.2 = true) :
    guardsOk fc n s ∧
    (CertAt c O n ch s (certTs fc s) ∨ CertAt c O n ch s (legacyTs c n (certTs fc s))) := by
  have cert : ∀ {t' : Table} (ts : Nat), TableOk O idOf t' → (attempt c O n ch t' s ts).1.2 = true →
      CertAt c O n ch s ts := by
    intro t' ts ht' h
    rw [(attempt_spec ht' hid s ts).1] at h
    split at h
    · assumption
    · cases h
  by_cases hg : guardsOk fc n s
  · refine ⟨hg, ?_⟩
    rcases vf_cases c fc O n ch t s hg with h | ⟨-, h⟩ <;> rw [h] at hfin
    · exact Or.inl (cert _ ht hfin)
    · exact Or.inr (cert _ (attempt_spec ht hid s _).2 hfin)
  · rw [vf_guard_fail c fc O n ch t s hg] at hfin; cases hfin

theorem vf_table_mem (c : Consts) (fc : FConsts) (O : Oracle) (n : Node) (ch : Chain) (t : Table) (s : Snap)
    {e : CKey × Option (List Nat)} (he : e ∈ (verifyFinalization c fc O n ch t s).2) :
    e ∈ t ∨ ∃ a ∈ finalizationAttempts c n ch s.round (certTs fc s),
      e.1 = ⟨s.hash, s.sig, a.1.map Prod.snd, a.2, s.mask⟩ := by
  by_cases hg : guardsOk fc n s
  · have hp : (_, _) ∈ finalizationAttempts c n ch s.round (certTs fc s) :=
      mem_attempts.2 ⟨Nat.not_lt.2 hg.2.2.2, Or.inl rfl⟩
    rcases vf_cases c fc O n ch t s hg with h | ⟨hl, h⟩ <;> rw [h] at he
    · exact (cache_table_mem he).imp_right fun h => ⟨_, hp, h⟩
    · rcases cache_table_mem he with h | h
      · exact (cache_table_mem h).imp_right fun h => ⟨_, hp, h⟩
      · exact Or.inr ⟨_, hl, h⟩
  · rw [vf_guard_fail c fc O n ch t s hg] at he
    exact Or.inl he

/-- starting from an empty table, the table `verifyFinalization` leaves behind
    records every `cacheVerifyCosi` call it made; each of them used a key vector and a threshold that
    form one of the pairs of `finalizationAttempts` — in particular the legacy retry verifies the
    legacy key vector against the threshold *of the legacy timestamp*. -/
theorem verify_attempts (c : Consts) (fc : FConsts) (O : Oracle) (n : Node) (ch : Chain) (s : Snap) :
    ∀ e ∈ (verifyFinalization c fc O n ch [] s).2,
      ∃ a ∈ finalizationAttempts c n ch s.round (certTs fc s),
        e.1.publics = a.1.map Prod.snd ∧ e.1.thr = a.2 := by
  intro e he
  rcases vf_table_mem c fc O n ch [] s he with h | ⟨a, ha, h⟩
  · cases h
  · exact ⟨a, ha, congrArg CKey.publics h, congrArg CKey.thr h⟩

/-! ### non-vacuity: 7 genesis nodes, a 5-of-7 certificate is accepted, 4-of-7 is not -/
def g (i : Nat) : Rec := { ts := 0, id := 1000 + i, signer := i, payee := 200 + i, state := .accepted, tx := 300 + i }
def node7 : Node := ⟨0, false, 1001, 1, [1001, 1002, 1003, 1004, 1005, 1006, 1007], [g 1, g 2, g 3, g 4, g 5, g 6, g 7]⟩
def goodO : Oracle := fun ks h sg => ks == [1, 2, 3, 4, 5] && h == 77 && sg == 99
def snap5 : Snap := { version := 2, hasSig := true, mask := 31, sig := 99, hash := 77, hack := false, ts := 1000, round := 1 }
example : (verifyFinalization genConsts genFConsts goodO node7 ⟨none⟩ [] snap5).1 = ([1001, 1002, 1003, 1004, 1005], true) := by decide
example : (verifyFinalization genConsts genFConsts goodO node7 ⟨none⟩ [] { snap5 with mask := 15 }).1 = ([], false) := by decide
example : (verifyFinalization genConsts genFConsts goodO node7 ⟨none⟩ [] { snap5 with hash := 78 }).1 = ([], false) := by decide
example : usePredictive genConsts node7 (certTs genFConsts snap5) = true := by decide
example : KeysIdOf genConsts (fun k => 1000 + k) node7 ⟨none⟩ → True := fun _ => trivial

end Mixin.C09
