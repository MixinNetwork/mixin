import Mixin.Proofs.Cosi
import Mathlib.Data.ZMod.Basic
import Mathlib.Algebra.Module.BigOperators
/-!
# C13 — collective signatures verify exactly when built from valid shares

Theorems about the executable model `Mixin.Cosi` (points named by discrete logs, scalars computed
in `Nat` modulo ℓ; tied to crypto/cosi.go by the `cosi` correspondence stream): completeness of
commit → aggregate → verify for every key vector, signer set, threshold and challenge value, share
soundness, and every rejection the property names.

The first section states the two computations behind CoSi for every `ZMod ℓ`-module `G` with base
point `B` (`cosi_algebra`, `share_sound_group`).  It stands beside the model, not under it: the
model theorems are proved directly and are not instances of it.  What joins the two is
`verify_is_group_equation` (what the model's check accepts satisfies the group equation in every
`G`) and `dl_instance_injective` (`G = ZMod ℓ`, `B = 1` meets the injectivity hypothesis); that
the model *is* that instance is not a theorem.

Not a theorem here: that no signature verifies unless it was built from shares (unforgeability).
-/
namespace Mixin.C13
open Mixin.Cosi

section Abstract
variable {G : Type} [AddCommGroup G] [Module (ZMod ell) G] (B : G)

/-- `(Σ (x·aᵢ + rᵢ)) • B = Σ rᵢ•B + x • Σ aᵢ•B`: the sum of valid shares satisfies the
    verification equation for the summed commitment and the summed key. -/
theorem cosi_algebra {ι : Type} (t : Finset ι) (a r : ι → ZMod ell) (x : ZMod ell) :
    (∑ i ∈ t, (x * a i + r i)) • B = (∑ i ∈ t, r i • B) + x • ∑ i ∈ t, a i • B := by
  rw [Finset.sum_add_distrib, add_smul, ← Finset.mul_sum, mul_smul, Finset.sum_smul,
    Finset.sum_smul, add_comm]

theorem share_smul (a r x : ZMod ell) : (x * a + r) • B = r • B + x • (a • B) := by
  rw [add_smul, mul_smul, add_comm]

/-- with an injective `k ↦ k • B`, a share passes `s•B = R + x•A` iff it is `x·a + r` -/
theorem share_sound_group (hB : Function.Injective (fun k : ZMod ell => k • B))
    (a r x s : ZMod ell) : s • B = r • B + x • (a • B) ↔ s = x * a + r := by
  rw [← share_smul]
  exact ⟨fun e => hB e, fun e => by rw [e]⟩

/-- the discrete-log instance satisfies the injectivity hypothesis -/
theorem dl_instance_injective : Function.Injective (fun k : ZMod ell => k • (1 : ZMod ell)) := by
  intro a b h
  simpa using h

/-- what the model's Schnorr check means in any group: the numbers it accepts satisfy
    `s•B = r•B + x•(a•B)`. -/
theorem verify_is_group_equation (a r s x : Nat)
    (h : verifyWithChallenge (Pt.dl a) (Pt.dl r) s x = true) :
    (s : ZMod ell) • B = (r : ZMod ell) • B + (x : ZMod ell) • ((a : ZMod ell) • B) := by
  obtain ⟨_, _, rfl, _, hr, _, hs⟩ := (verifyWithChallenge_dl_iff a _ s x).1 h
  obtain ⟨rfl, _⟩ := decode_dl_eq_some_iff.1 hr
  rw [← share_smul, hs, add_mul_mod, ZMod.natCast_mod, Nat.cast_add, Nat.cast_mul, add_comm]

end Abstract

/-- `FullVerify` accepts iff the threshold is met, the mask selects decodable keys inside the
    vector, and `S•B = R + x•ΣAᵢ` with `R`, `ΣAᵢ` not the identity and `S` canonical. -/
theorem fullVerify_iff (c : Sig) (publics : List Pt) (th : Int) (x : Nat) :
    fullVerify c publics th x = true ↔
      0 < th ∧ th ≤ (keys c.mask).length ∧
      ∃ sel A r, collectSigners publics (keysInt c.mask) = some sel ∧ A = sumDl sel % ell ∧
        A ≠ 0 ∧ c.R.decode = some r ∧ c.S < ell ∧ c.S = (r + x * A) % ell := by
  unfold fullVerify aggregatePublicKey
  rw [ite_eq_iff_of_ne Bool.false_ne_true, ite_eq_iff_of_ne Bool.false_ne_true, Int.not_le,
    Int.not_lt]
  refine and_congr_right fun _ => and_congr_right fun _ => ?_
  cases collectSigners publics (keysInt c.mask) with
  | none => exact ⟨nofun, by rintro ⟨_, _, _, h, _⟩; cases h⟩
  | some sel =>
    rw [Option.map_some, verifyWithChallenge_dl_iff]
    simp only [Option.some.injEq, exists_and_left, exists_eq_left']

/-- a threshold above the number of mask bits (or ≤ 0) fails -/
theorem threshold_above_mask (c : Sig) (publics : List Pt) (th : Int) (x : Nat)
    (h : ((keys c.mask).length : Int) < th ∨ th ≤ 0) : fullVerify c publics th x = false := by
  rw [Bool.eq_false_iff, Ne, fullVerify_iff]
  rintro ⟨h0, h1, _⟩
  omega

/-- a mask bit at or beyond the length of the key vector makes full
    verification, single-response verification and both aggregation modes fail. -/
theorem mask_out_of_range (c : Sig) (publics : List Pt)
    (h : ∃ k ∈ keys c.mask, publics.length ≤ k) :
    (∀ th x, fullVerify c publics th x = false) ∧
    (∀ signer s x, verifyResponse c publics signer s x = false) ∧
    (∀ resp x strict, aggregateResponse c publics resp x strict = none) := by
  obtain ⟨k, hk, hlen⟩ := h
  have hcol : collectSigners publics (keysInt c.mask) = none :=
    (collectSigners_eq_none_iff _ _).2 (.inr (.inr ⟨(k : Int), List.mem_map.2 ⟨k, hk, rfl⟩,
      .inr (.inl (Int.ofNat_le.2 hlen))⟩))
  refine ⟨fun th x => ?_, fun signer s x => ?_, fun resp x strict => ?_⟩
  · rw [Bool.eq_false_iff, Ne, fullVerify_iff, hcol]
    rintro ⟨_, _, _, _, _, h, _⟩
    cases h
  · have hall : keysInVector c.mask publics = false := by
      rw [Bool.eq_false_iff]
      intro hc
      exact absurd (of_decide_eq_true (List.all_eq_true.1 hc k hk)) (Nat.not_lt.2 hlen)
    unfold verifyResponse
    cases s with
    | none => rfl
    | some s =>
      dsimp only
      rw [hall]
      rfl
  · rw [Option.eq_none_iff_forall_ne_some]
    intro c' hc
    have := (responsesPresent_iff _ _ _).1 ((aggregateResponse_eq_some_iff ..).1 hc).1 k hk
    exact absurd this.1 (Nat.not_lt.2 hlen)

/-- aggregation fails when a masked signer has no response (or a
    nil one), and when the number of responses differs from the number of mask bits (an extra or
    repeated signer). -/
theorem missing_or_extra_response (c : Sig) (publics : List Pt) (resp : List (Int × Option Nat))
    (x : Nat) (strict : Bool)
    (h : (∃ k ∈ keys c.mask, ∀ s, resp.lookup (k : Int) ≠ some (some s)) ∨
      resp.length ≠ (keys c.mask).length) :
    aggregateResponse c publics resp x strict = none := by
  rw [Option.eq_none_iff_forall_ne_some]
  intro c' hc
  obtain ⟨hpres, hlen, _⟩ := (aggregateResponse_eq_some_iff ..).1 hc
  rcases h with ⟨k, hk, hmiss⟩ | hne
  · obtain ⟨_, s, hs⟩ := (responsesPresent_iff _ _ _).1 hpres k hk
    exact hmiss s hs
  · exact hne hlen.symm

/-- the signers of a mask are listed once each, in increasing order: nobody is
    counted twice towards the threshold. -/
theorem mask_is_set (m : Nat) : (keys m).Nodup ∧ (keys m).Pairwise (· < ·) ∧ ∀ i ∈ keys m, i < 64 :=
  ⟨keys_nodup m, keys_pairwise m, fun _ h => (mem_keys.1 h).1⟩

/-- a commitment set with an index outside 0..63 or a refused commitment is rejected -/
theorem commit_rejects (randoms : List (Int × Pt))
    (h : randoms = [] ∨ ∃ q ∈ randoms, q.2.decode = none ∨ q.1 < 0 ∨ 64 ≤ q.1) :
    commit randoms = none := by
  unfold commit
  rcases h with rfl | ⟨q, hq, hbad⟩
  · rfl
  · cases hl : commitLoop randoms 0 0 [] with
    | none => exact ite_self _
    | some r =>
      obtain ⟨hd, h0, h64⟩ := good_of_commitLoop randoms 0 0 [] r hl q hq
      rcases hbad with h | h | h
      · exact absurd h hd
      · exact absurd h0 (Int.not_le.2 h)
      · exact absurd h64 (Int.not_lt.2 h)

/-- `share_sound` of the property, for a single response: `VerifyResponse` accepts a response only if the signer is
    in the mask, has a commitment `r•B`, a decodable key `a•B`, and the response is exactly
    `x·a + r (mod ℓ)`. -/
theorem share_sound_single (c : Sig) (publics : List Pt) (signer : Int) (s x : Nat)
    (h : verifyResponse c publics signer (some s) x = true) :
    (∃ k ∈ keys c.mask, (k : Int) = signer) ∧
    ∃ R a r, c.commitments.lookup signer = some R ∧ R.decode = some r ∧
      (publics.getD signer.toNat Pt.bad).decode = some a ∧ s < ell ∧ s = (x * a + r) % ell := by
  unfold verifyResponse at h
  obtain ⟨-, h⟩ := of_ite_eq h Bool.false_ne_true
  obtain ⟨hany, h⟩ := of_ite_eq h Bool.false_ne_true
  cases hR : c.commitments.lookup signer with
  | none => rw [hR] at h; cases h
  | some R =>
    rw [hR] at h
    obtain ⟨-, h⟩ := of_ite_eq h Bool.false_ne_true
    obtain ⟨a, r, ha, hr, hlt, hs⟩ := (verifyWithChallenge_iff _ _ _ _).1 h
    rw [Bool.not_eq_true, Bool.not_eq_false'] at hany
    obtain ⟨k, hk, hke⟩ := List.any_eq_true.1 hany
    exact ⟨⟨k, hk, eq_of_beq hke⟩, R, a, r, rfl, hr, ha, hlt, by rw [hs, Nat.add_comm]⟩

/-- `share_sound` of the property, for strict aggregation: if strict aggregation succeeds, every response it was
    given is the valid share of its signer. -/
theorem share_sound_strict (c c' : Sig) (publics : List Pt) (resp : List (Int × Option Nat)) (x : Nat)
    (h : aggregateResponse c publics resp x true = some c') :
    ∀ q ∈ resp, ∃ s R a r, q.2 = some s ∧ c.commitments.lookup q.1 = some R ∧
      R.decode = some r ∧ (publics.getD q.1.toNat Pt.bad).decode = some a ∧
      s = (x * a + r) % ell := by
  obtain ⟨_, _, _, S, hl, _⟩ := (aggregateResponse_eq_some_iff ..).1 h
  intro q hq
  obtain ⟨s, R, hs, hR, _, hv⟩ := ((respLoop_eq_some_iff ..).1 hl).1 q hq
  obtain ⟨a, r, ha, hr, _, he⟩ := (verifyWithChallenge_iff _ _ _ _).1 (hv rfl)
  exact ⟨s, R, a, r, hs, hR, hr, ha, by rw [he, Nat.add_comm]⟩

/-- contrapositive reading: a response that differs from the signer's share is refused by
    single-response verification. -/
theorem bad_share_rejected (c : Sig) (publics : List Pt) (k : Nat) (s x a r : Nat) (R : Pt)
    (hR : c.commitments.lookup (k : Int) = some R) (hr : R.decode = some r)
    (ha : (publics.getD k Pt.bad).decode = some a) (hne : s ≠ (x * a + r) % ell) :
    verifyResponse c publics (k : Int) (some s) x = false := by
  rw [Bool.eq_false_iff]
  intro h
  obtain ⟨_, R', a', r', hR', hr', ha', _, hs⟩ := share_sound_single c publics _ s x h
  cases hR.symm.trans hR'
  cases hr.symm.trans hr'
  rw [Int.toNat_natCast] at ha'
  cases ha.symm.trans ha'
  exact hne hs

/-- for every key vector, every non-empty set of signers inside it (each
    index once, below 64) with decodable keys and commitments, every challenge value `x`, the
    valid shares `sᵢ = x·aᵢ + rᵢ` presented in any order, both aggregation modes and every
    threshold `1 ≤ t ≤ |signers|`: commitment aggregation succeeds, response aggregation succeeds
    and full verification succeeds — provided neither the summed commitment nor the summed key is
    the identity (the code refuses to decode the identity; see `complete_needs_nonzero`). -/
theorem cosi_complete (publics : List Pt) (rs : List (Nat × Pt)) (x : Nat) (strict : Bool)
    (th : Int) (resp : List (Int × Option Nat))
    (hne : rs ≠ [])
    (hnd : (rs.map (·.1)).Nodup)
    (hidx : ∀ q ∈ rs, q.1 < 64 ∧ q.1 < publics.length)
    (hR : ∀ q ∈ rs, q.2.decode ≠ none)
    (hA : ∀ q ∈ rs, (publics.getD q.1 Pt.bad).decode ≠ none)
    (hresp : resp.Perm (rs.map (fun q => ((q.1 : Int), some ((x * dlAt publics q.1 + dlOf q.2) % ell)))))
    (hRsum : (rs.map (fun q => dlOf q.2)).sum % ell ≠ 0)
    (hAsum : (rs.map (fun q => dlAt publics q.1)).sum % ell ≠ 0)
    (hth : 0 < th ∧ th ≤ rs.length) :
    ∃ c c', commit (rs.map castIdx) = some c ∧
      aggregateResponse c publics resp x strict = some c' ∧
      fullVerify c' publics th x = true := by
  have h64 : ∀ q ∈ rs, q.1 < 64 := fun q hq => (hidx q hq).1
  -- commitment aggregation: the summed commitment and the mask of the signers
  let c : Sig := { R := Pt.dl (sumMod 0 (rs.map fun q => dlOf q.2)), S := 0, mask := maskOf rs 0,
                   commitments := rs.map castIdx }
  have hcommit : commit (rs.map castIdx) = some c := by
    unfold commit
    rw [if_neg (by rwa [List.isEmpty_iff, List.map_eq_nil_iff]), commitLoop_ok rs hR h64]
    rfl
  -- the mask lists the signers, so the aggregate key is the sum of their keys
  have hperm := keys_maskOf_perm rs hnd h64
  have hmem : ∀ k ∈ keys (maskOf rs 0), ∃ q ∈ rs, q.1 = k := fun k hk =>
    List.mem_map.1 (hperm.mem_iff.1 hk)
  have hlen : (keys (maskOf rs 0)).length = rs.length := by
    rw [hperm.length_eq, List.length_map]
  have hcollect := collectSigners_keysInt publics (maskOf rs 0)
    (fun e => hne (List.length_eq_zero_iff.1 (by rw [← hlen, e]; rfl)))
    (fun k hk => by obtain ⟨q, hq, rfl⟩ := hmem k hk; exact ⟨(hidx q hq).2, hA q hq⟩)
  have hkeysum : sumDl ((keys (maskOf rs 0)).map fun k => (k, dlAt publics k)) % ell =
      (rs.map fun q => dlAt publics q.1).sum % ell := by
    rw [sumDl_map_mod, (hperm.map (dlAt publics)).sum_eq, List.map_map]
    rfl
  -- response aggregation: every response is the share of a signer, hence passes both modes
  have hrespnd : (resp.map (·.1)).Nodup := by
    rw [(hresp.map (·.1)).nodup_iff, List.map_map]
    exact nodup_natCast_fst hnd
  have hloop : respLoop c publics x strict resp 0 =
      some (sumMod 0 (resp.map fun q => q.2.getD 0)) := by
    rw [respLoop_eq_some_iff]
    refine ⟨fun q hq => ?_, rfl⟩
    obtain ⟨q0, hq0, rfl⟩ := List.mem_map.1 (hresp.mem_iff.1 hq)
    obtain ⟨a, hda⟩ := Option.ne_none_iff_exists'.1 (hA q0 hq0)
    obtain ⟨r, hdr⟩ := Option.ne_none_iff_exists'.1 (hR q0 hq0)
    refine ⟨_, q0.2, rfl, lookup_castIdx rs hnd q0 hq0, Nat.mod_lt _ ell_pos, fun _ => ?_⟩
    rw [verifyWithChallenge_iff]
    refine ⟨a, r, by rw [Int.toNat_natCast]; exact hda, hdr, Nat.mod_lt _ ell_pos, ?_⟩
    rw [dlAt, dlOf, hda, hdr, Option.getD_some, Option.getD_some, Nat.add_comm]
  have hagg : aggregateResponse c publics resp x strict =
      some { c with S := sumMod 0 (resp.map fun q => q.2.getD 0) } := by
    rw [aggregateResponse_eq_some_iff]
    refine ⟨?_, ?_, ?_, _, hloop, rfl⟩
    · rw [responsesPresent_iff]
      intro k hk
      obtain ⟨q, hq, rfl⟩ := hmem k hk
      exact ⟨(hidx q hq).2, _, lookup_of_mem_nodup resp hrespnd _ _
        (hresp.mem_iff.2 (List.mem_map_of_mem hq))⟩
    · rw [hresp.length_eq, List.length_map]
      exact hlen
    · unfold challengeOk aggregatePublicKey
      rw [show c.mask = maskOf rs 0 from rfl, hcollect]
      rfl
  refine ⟨c, _, hcommit, hagg, ?_⟩
  -- full verification: the sum of the shares is the share of the sums
  rw [fullVerify_iff]
  refine ⟨hth.1, by rw [show (keys _).length = rs.length from hlen]; exact hth.2, _, _, _,
    hcollect, rfl, by rwa [hkeysum], decode_dl _ (by rwa [sumMod_mod, Nat.zero_add]),
    sumMod_lt _ _ ell_pos, ?_⟩
  show sumMod 0 _ = _
  rw [hkeysum, ← Nat.mod_eq_of_lt (sumMod_lt 0 _ ell_pos), sumMod_mod, sumMod_mod, Nat.zero_add,
    Nat.zero_add, (hresp.map fun q => q.2.getD 0).sum_eq, List.map_map]
  exact shares_sum_mod rs (dlAt publics ·.1) (dlOf ·.2) x

/-! ## the hypothesis the proof forces: identity sums

`decodePoint` refuses the identity, so a signer set whose keys (or commitments) sum to the
identity cannot be verified even with perfectly valid shares.  Concrete witness: keys `5•B` and
`(ℓ−5)•B`.  The same situation is replayed against the real code by the `cosi` corpus. -/
/-- commit, aggregate, verify in one go (for the concrete instances below) -/
def pipeline (publics : List Pt) (rs : List (Int × Pt)) (resp : List (Int × Option Nat))
    (x : Nat) (strict : Bool) (th : Int) : Option Bool :=
  (commit rs).bind (fun c =>
    (aggregateResponse c publics resp x strict).map (fun c' => fullVerify c' publics th x))

theorem complete_needs_nonzero :
    pipeline [Pt.dl 5, Pt.dl (ell - 5)] [(0, Pt.dl 11), (1, Pt.dl 13)]
      [(0, some ((3 * 5 + 11) % ell)), (1, some ((3 * (ell - 5) + 13) % ell))] 3 true 2 = some false := by
  decide

/- a concrete instance of `cosi_complete`'s conclusion, evaluated by the model -/
example :
    pipeline [Pt.dl 5, Pt.dl 7, Pt.dl 9] [(2, Pt.dl 11), (0, Pt.dl 13)]
      [(0, some ((1234567 * 5 + 13) % ell)), (2, some ((1234567 * 9 + 11) % ell))] 1234567 true 2 = some true := by
  decide

example : (commit [(2, Pt.dl 11), (0, Pt.dl 13)]).map (·.mask) = some 5 := by decide

/- a wrong share is refused by the single-response check and by strict aggregation, and
    accepted by lenient aggregation (whose result then fails verification) -/
example :
    (commit [(0, Pt.dl 11), (1, Pt.dl 13)]).map (fun c =>
      (verifyResponse c [Pt.dl 5, Pt.dl 7] 0 (some ((99 * 5 + 11) % ell + 1)) 99,
       verifyResponse c [Pt.dl 5, Pt.dl 7] 0 (some ((99 * 5 + 11) % ell)) 99)) = some (false, true) := by
  decide

example :
    pipeline [Pt.dl 5, Pt.dl 7] [(0, Pt.dl 11), (1, Pt.dl 13)]
      [(0, some ((99 * 5 + 11) % ell + 1)), (1, some ((99 * 7 + 13) % ell))] 99 true 2 = none ∧
    pipeline [Pt.dl 5, Pt.dl 7] [(0, Pt.dl 11), (1, Pt.dl 13)]
      [(0, some ((99 * 5 + 11) % ell + 1)), (1, some ((99 * 7 + 13) % ell))] 99 false 2 = some false := by
  decide

end Mixin.C13
