import Mixin.Model.NodeStore
import Mixin.Facts.Generated
import Mixin.Proofs.Basics
/-!
# C27 — membership follows the pledge / accept / cancel / remove lifecycle

Theorems about `Mixin.Model.NodeStore` (model of `storage/badger_node.go`). The timestamp
discipline the proofs need is the explicit hypothesis `Fresh`: the operation's timestamp is
positive, larger than every recorded timestamp, and `ts + 12 h` does not wrap in `uint64`.
For consensus operations this is what C28 provides (`Mixin.C28`: every recorded consensus
operation has a strictly later snapshot timestamp than the previous one). Outside `Fresh` the
statements are false of the code (see `pledge_while_pending_outside_discipline` at the end); the
harness explores that region on the real store and reports it as an observation.
-/
namespace Mixin.C27
open Mixin.NodeStore

def Fresh (c : Cfg) (s : Store) (ts : Nat) : Prop :=
  0 < ts ∧ (∀ r ∈ s, 0 < r.ts ∧ r.ts < ts) ∧ ts + c.pledgePeriod < u64 ∧ ts + c.acceptPeriod < u64

theorem put_fresh (s : Store) (r : Rec) (h : ∀ x ∈ s, x.ts < r.ts) : put s r = s ++ [r] := by
  induction s with
  | nil => rfl
  | cons x xs ih =>
    have hx : x.ts < r.ts := h x (List.mem_cons_self ..)
    have h1 : sameKey x r = false := by simp [sameKey]; omega
    have h2 : keyLt r x = false := by simp [keyLt]; omega
    simp only [put, h1, h2, Bool.false_eq_true, if_false, List.cons_append,
      ih fun y hy => h y (List.mem_cons_of_mem _ hy)]

theorem readAll_fresh (s : Store) (thr : Nat) (ws : Bool) (h : ∀ r ∈ s, 0 < r.ts ∧ r.ts ≤ thr) :
    readAll s thr ws = some (if ws then s else dedup s) := by
  have h0 : s.any (fun r => r.ts == 0) = false := by
    rw [List.any_eq_false]; intro r hr; have := (h r hr).1; simp; omega
  have hf : s.filter (fun r => decide (r.ts ≤ thr)) = s := by
    rw [List.filter_eq_self]; intro r hr; simpa using (h r hr).2
  simp [readAll, h0, hf]

theorem lastOf_eq (k : Nat) (l : List Rec) : lastOf k l = (l.filter (·.signer == k)).getLast? := by
  induction l with
  | nil => rfl
  | cons a rest ih =>
    rw [lastOf, ih, List.filter_cons]
    cases hr : (rest.filter (·.signer == k)).getLast? <;> by_cases ha : (a.signer == k) = true <;>
      simp [hr, ha, List.getLast?_cons]

theorem lastOf_none_iff (k : Nat) (l : List Rec) : lastOf k l = none ↔ ∀ x ∈ l, x.signer ≠ k := by
  simp [lastOf_eq]

theorem lastOf_some_mem (k : Nat) (l : List Rec) (r : Rec) (h : lastOf k l = some r) :
    r ∈ l ∧ r.signer = k := by
  rw [lastOf_eq] at h
  simpa using List.mem_of_getLast? h

theorem lastOf_cons_eq_some (k : Nat) (a r : Rec) (rest : List Rec) :
    lastOf k (a :: rest) = some r ↔
      lastOf k rest = some r ∨ (lastOf k rest = none ∧ a.signer = k ∧ a = r) := by
  rw [lastOf]; cases lastOf k rest <;> simp

theorem mem_dedup_iff (l : List Rec) (r : Rec) : r ∈ dedup l ↔ lastOf r.signer l = some r := by
  induction l with
  | nil => simp [dedup, lastOf]
  | cons a rest ih =>
    have hany : rest.any (fun x => x.signer == a.signer) = true ↔ lastOf a.signer rest ≠ none := by
      simp [lastOf_none_iff]
    rw [lastOf_cons_eq_some, ← ih, dedup]
    split
    next h =>
      refine (or_iff_left ?_).symm
      rintro ⟨hn, -, rfl⟩; exact hany.1 h hn
    next h =>
      rw [List.mem_cons, or_comm]
      refine or_congr_right ⟨?_, fun h' => h'.2.2.symm⟩
      rintro rfl; exact ⟨Classical.not_not.1 (mt hany.2 h), rfl, rfl⟩

theorem dedup_sub (l : List Rec) : ∀ r ∈ dedup l, r ∈ l := fun r hr =>
  (lastOf_some_mem _ _ _ ((mem_dedup_iff l r).1 hr)).1

theorem dedup_cover (l : List Rec) : ∀ x ∈ l, ∃ y ∈ dedup l, y.signer = x.signer := by
  intro x hx
  cases h : lastOf x.signer l with
  | none => exact absurd rfl ((lastOf_none_iff _ _).1 h x hx)
  | some y =>
    have hy := (lastOf_some_mem _ _ _ h).2
    exact ⟨y, (mem_dedup_iff l y).2 (by rw [hy, h]), hy⟩

theorem dedup_append_one (l : List Rec) (r : Rec) :
    dedup (l ++ [r]) = (dedup l).filter (fun x => x.signer != r.signer) ++ [r] := by
  induction l with
  | nil => simp [dedup]
  | cons a rest ih =>
    rw [List.cons_append, dedup, dedup, ih, List.any_append]
    by_cases hs : r.signer = a.signer
    · have h1 : ([r].any fun x => x.signer == a.signer) = true := by simp [hs]
      rw [h1, Bool.or_true, if_pos rfl]
      split
      · rfl
      · rw [List.filter_cons_of_neg (by simp [hs])]
    · have h1 : ([r].any fun x => x.signer == a.signer) = false := by simp [hs]
      rw [h1, Bool.or_false]
      split
      · rfl
      · rw [List.filter_cons_of_pos (by simpa using Ne.symm hs), List.cons_append]

def mk (o : Op) (st : NState) : Rec := ⟨o.ts, o.signer, o.payee, o.tx, st⟩

theorem offset_fresh (ts p : Nat) (h : ts + p < u64) : offset ts p = ts + p :=
  Nat.mod_eq_of_lt h

theorem readAll_offset {c : Cfg} {s : Store} {ts p : Nat} (hf : Fresh c s ts) (hp : ts + p < u64) (ws : Bool) :
    readAll s (offset ts p) ws = some (if ws then s else dedup s) := by
  rw [offset_fresh _ _ hp]
  exact readAll_fresh s _ ws fun r hr => ⟨(hf.2.1 r hr).1, by have := (hf.2.1 r hr).2; omega⟩

theorem put_at_fresh {c : Cfg} {s : Store} {ts : Nat} (hf : Fresh c s ts) (k p t : Nat) (st : NState) :
    put s ⟨ts, k, p, t, st⟩ = s ++ [⟨ts, k, p, t, st⟩] :=
  put_fresh s _ fun x hx => (hf.2.1 x hx).2

theorem writePledge_fresh (c : Cfg) (s : Store) (k p t ts : Nat) (hf : Fresh c s ts) :
    writePledge c s k p t ts =
      if !((dedup s).all (fun n => isSettled n.state)) then .reject
      else if (dedup s).any (fun n => n.signer == k || n.tx == t) then .reject
      else .ok (s ++ [⟨ts, k, p, t, .pledging⟩]) := by
  simp only [writePledge, readAll_offset hf hf.2.2.1, put_at_fresh hf, Bool.false_eq_true, if_false]

theorem pledgingGuard_fresh (c : Cfg) (s : Store) (k p ts : Nat) (hf : Fresh c s ts) :
    pledgingGuard c s k p ts = pledgingGuardOn s k p := by
  simp only [pledgingGuard, readAll_offset hf hf.2.2.2, if_true]

theorem writeRemove_fresh (c : Cfg) (s : Store) (k p t ts : Nat) (hf : Fresh c s ts) :
    writeRemove c s k p t ts = removeOn s k p (s ++ [⟨ts, k, p, t, .removed⟩]) := by
  simp only [writeRemove, readAll_offset hf hf.2.2.2, put_at_fresh hf, if_true]

/-- An accepted pledge: no node's latest state is pledging (`pledge_only_when_none_pending`); the
    signer key occurs in no record of the history, in any state, and the transaction is not the
    latest transaction of any node (`pledge_new_signer_only`); exactly one record is appended. -/
theorem pledge_accepted (c : Cfg) (s s' : Store) (k p t ts : Nat) (hf : Fresh c s ts)
    (h : writePledge c s k p t ts = .ok s') :
    (∀ r ∈ dedup s, r.state ≠ .pledging) ∧ (∀ r ∈ s, r.signer ≠ k) ∧ (∀ r ∈ dedup s, r.tx ≠ t) ∧
      s' = s ++ [⟨ts, k, p, t, .pledging⟩] := by
  rw [writePledge_fresh c s k p t ts hf] at h
  obtain ⟨h1, h⟩ := of_ite_eq h nofun
  obtain ⟨h2, h⟩ := of_ite_eq h nofun
  simp only [Bool.not_eq_true', Bool.not_eq_false, List.all_eq_true] at h1
  simp only [List.any_eq_true, not_exists, not_and, Bool.or_eq_true, beq_iff_eq, not_or] at h2
  refine ⟨fun r hr hp => ?_, fun r hr hk => ?_, fun r hr => (h2 r hr).2, (Outcome.ok.inj h).symm⟩
  · have := h1 r hr; rw [hp] at this; cases this
  · obtain ⟨y, hy, hys⟩ := dedup_cover s r hr
    exact (h2 y hy).1 (hys.trans hk)

theorem pledge_only_when_none_pending (c : Cfg) (s s' : Store) (k p t ts : Nat) (hf : Fresh c s ts)
    (h : writePledge c s k p t ts = .ok s') : ∀ r ∈ dedup s, r.state ≠ .pledging :=
  (pledge_accepted c s s' k p t ts hf h).1

theorem pledge_new_signer_only (c : Cfg) (s s' : Store) (k p t ts : Nat) (hf : Fresh c s ts)
    (h : writePledge c s k p t ts = .ok s') : (∀ r ∈ s, r.signer ≠ k) ∧ (∀ r ∈ dedup s, r.tx ≠ t) :=
  ⟨(pledge_accepted c s s' k p t ts hf h).2.1, (pledge_accepted c s s' k p t ts hf h).2.2.1⟩

theorem pledgingGuardOn_true (s : Store) (k p : Nat) (h : pledgingGuardOn s k p = some true) :
    ∃ last, s.getLast? = some last ∧ last.state = .pledging ∧ last.signer = k ∧ last.payee = p := by
  unfold pledgingGuardOn at h
  split at h
  · cases h
  next last hl =>
  obtain ⟨h1, h⟩ := of_ite_eq h nofun
  obtain ⟨h2, -⟩ := of_ite_eq h nofun
  simp only [bne_iff_ne, ne_eq, Classical.not_not, Bool.or_eq_true, not_or] at h1 h2
  exact ⟨last, hl, h1, h2⟩

/-- the common shape of `writeNodeAccept` (non-genesis) and `writeNodeCancel`: the guard, then the write -/
theorem guarded_accepted (c : Cfg) (s s' : Store) (k p t ts : Nat) (st : NState) (hf : Fresh c s ts)
    (h : (match pledgingGuard c s k p ts with
          | none => Outcome.panic
          | some false => .reject
          | some true => .ok (put s ⟨ts, k, p, t, st⟩)) = .ok s') :
    (∃ last, s.getLast? = some last ∧ last.state = .pledging ∧ last.signer = k ∧ last.payee = p) ∧
      s' = s ++ [⟨ts, k, p, t, st⟩] := by
  rw [pledgingGuard_fresh c s k p ts hf, put_at_fresh hf] at h
  match hg : pledgingGuardOn s k p, h with
  | some true, h => exact ⟨pledgingGuardOn_true s k p hg, (Outcome.ok.inj h).symm⟩

/-- An accepted (non-genesis) accept: the most recent record of the history is a pledge of exactly
    this signer with exactly this payee (`accept_cancel_only_current_pledging`; `lifecycle_invariant`
    adds that this is the only node whose latest state is pledging); one record is appended. -/
theorem accept_accepted (c : Cfg) (s s' : Store) (k p t ts : Nat) (hf : Fresh c s ts)
    (h : writeAccept c s k p t ts false = .ok s') :
    (∃ last, s.getLast? = some last ∧ last.state = .pledging ∧ last.signer = k ∧ last.payee = p) ∧
      s' = s ++ [⟨ts, k, p, t, .accepted⟩] :=
  guarded_accepted c s s' k p t ts .accepted hf h

theorem cancel_accepted (c : Cfg) (s s' : Store) (k p t ts : Nat) (hf : Fresh c s ts)
    (h : writeCancel c s k p t ts = .ok s') :
    (∃ last, s.getLast? = some last ∧ last.state = .pledging ∧ last.signer = k ∧ last.payee = p) ∧
      s' = s ++ [⟨ts, k, p, t, .cancelled⟩] :=
  guarded_accepted c s s' k p t ts .cancelled hf h

theorem accept_cancel_only_current_pledging (c : Cfg) (s s' : Store) (k p t ts : Nat)
    (hf : Fresh c s ts)
    (h : writeAccept c s k p t ts false = .ok s' ∨ writeCancel c s k p t ts = .ok s') :
    ∃ last, s.getLast? = some last ∧ last.state = .pledging ∧ last.signer = k ∧ last.payee = p := by
  rcases h with h | h
  · exact (accept_accepted c s s' k p t ts hf h).1
  · exact (cancel_accepted c s s' k p t ts hf h).1

theorem removeOn_ok {nodes : List Rec} {k p : Nat} {new s' : Store} (h : removeOn nodes k p new = .ok s') :
    (∃ node, lastOf k nodes = some node ∧ node.state = .accepted ∧ node.payee = p) ∧
      (∃ last, nodes.getLast? = some last ∧ isSettled last.state = true) ∧ s' = new := by
  unfold removeOn at h
  split at h
  · cases h
  next last hl =>
  obtain ⟨h1, h⟩ := of_ite_eq h nofun
  split at h
  · cases h
  next node hn =>
  obtain ⟨h2, h⟩ := of_ite_eq h nofun
  obtain ⟨h3, h⟩ := of_ite_eq h nofun
  simp only [bne_iff_ne, ne_eq, Classical.not_not] at h2 h3
  simp only [Bool.not_eq_true', Bool.not_eq_false] at h1
  exact ⟨⟨node, hn, h3, h2⟩, ⟨last, hl, h1⟩, (Outcome.ok.inj h).symm⟩

/-- An accepted remove: the latest record of this signer exists, is `accepted` and has exactly this
    payee (`remove_only_accepted_matching`); moreover the most recent record of the whole history is
    not a pledge; one record is appended. -/
theorem remove_accepted (c : Cfg) (s s' : Store) (k p t ts : Nat) (hf : Fresh c s ts)
    (h : writeRemove c s k p t ts = .ok s') :
    (∃ node, lastOf k s = some node ∧ node.state = .accepted ∧ node.payee = p) ∧
      (∃ last, s.getLast? = some last ∧ isSettled last.state = true) ∧
      s' = s ++ [⟨ts, k, p, t, .removed⟩] :=
  removeOn_ok (writeRemove_fresh c s k p t ts hf ▸ h)

theorem remove_only_accepted_matching (c : Cfg) (s s' : Store) (k p t ts : Nat) (hf : Fresh c s ts)
    (h : writeRemove c s k p t ts = .ok s') :
    ∃ node, lastOf k s = some node ∧ node.state = .accepted ∧ node.payee = p :=
  (remove_accepted c s s' k p t ts hf h).1

/-- Whatever the timestamps: an operation that is not accepted
    (error or panic) leaves the history as it was. -/
theorem rejected_op_no_write (c : Cfg) (s : Store) (o : Op) (h : ∀ s', write c s o ≠ .ok s') :
    step c s o = s := by
  unfold step
  cases hw : write c s o with
  | ok s' => exact absurd hw (h s')
  | reject => rfl
  | panic => rfl

/-- Whatever the history: `ReadAllNodes(threshold, false)` returns
    exactly, for every signer, the last record (in key order, i.e. the one with the largest
    timestamp) among that signer's records visible at the threshold. -/
theorem latest_state_reported (s : Store) (thr : Nat) (out : List Rec)
    (h : readAll s thr false = some out) (r : Rec) :
    r ∈ out ↔ lastOf r.signer (s.filter (fun x => decide (x.ts ≤ thr))) = some r := by
  unfold readAll at h
  split at h
  · cases h
  · cases h; exact mem_dedup_iff _ r

/-- the states recorded for signer `k`, in history order -/
def hist (s : Store) (k : Nat) : List NState := (s.filter (fun r => r.signer == k)).map (·.state)

/-- the lifecycles a signer key can have: a genesis node (accepted first) or a pledged node -/
def allowed : List (List NState) :=
  [[], [.accepted], [.accepted, .removed], [.pledging], [.pledging, .accepted],
   [.pledging, .cancelled], [.pledging, .accepted, .removed]]

structure Inv (s : Store) : Prop where
  pos : ∀ r ∈ s, 0 < r.ts
  life : ∀ k, hist s k ∈ allowed
  pendingLast : ∀ r ∈ dedup s, r.state = .pledging → s.getLast? = some r

theorem hist_cons (a : Rec) (rest : Store) (k : Nat) :
    hist (a :: rest) k = (if a.signer == k then [a.state] else []) ++ hist rest k := by
  unfold hist
  by_cases ha : (a.signer == k) = true <;> simp [ha]

theorem hist_append (s : Store) (r : Rec) (k : Nat) :
    hist (s ++ [r]) k = hist s k ++ (if r.signer == k then [r.state] else []) := by
  unfold hist
  rw [List.filter_append, List.map_append]
  by_cases h : (r.signer == k) = true <;> simp [h]

theorem hist_nil_of_absent (s : Store) (k : Nat) (h : ∀ r ∈ s, r.signer ≠ k) : hist s k = [] := by
  unfold hist
  rw [List.map_eq_nil_iff, List.filter_eq_nil_iff]
  intro r hr; simpa using h r hr

theorem hist_getLast? (s : Store) (k : Nat) : (hist s k).getLast? = (lastOf k s).map (·.state) := by
  rw [hist, List.getLast?_map, lastOf_eq]

theorem hist_last_of_getLast (s : Store) (l : Rec) (h : s.getLast? = some l) :
    (hist s l.signer).getLast? = some l.state := by
  obtain ⟨ys, rfl⟩ := List.getLast?_eq_some_iff.mp h
  rw [hist_append]; simp

theorem allowed_last_pledging : ∀ h ∈ allowed, h.getLast? = some .pledging → h = [.pledging] := by
  decide

theorem allowed_last_accepted :
    ∀ h ∈ allowed, h.getLast? = some .accepted → h = [.accepted] ∨ h = [.pledging, .accepted] := by
  decide

theorem allowed_pledging_once :
    ∀ h ∈ allowed, h.count .pledging ≤ 1 ∧ (h.drop 1).all (· != .pledging) = true := by
  decide

/-- appending one record keeps the invariant when (a) the signer's lifecycle stays allowed and
    (b) no *other* node is left pending behind a non-pledging record -/
theorem inv_append (s : Store) (r : Rec) (hi : Inv s) (hpos : 0 < r.ts)
    (hlife : hist s r.signer ++ [r.state] ∈ allowed)
    (hpend : ∀ x ∈ dedup s, x.signer ≠ r.signer → x.state ≠ .pledging) : Inv (s ++ [r]) := by
  constructor
  · exact List.forall_mem_append.mpr ⟨hi.pos, List.forall_mem_singleton.mpr hpos⟩
  · intro k
    rw [hist_append]
    by_cases hk : r.signer = k
    · subst hk; simpa using hlife
    · simpa [hk] using hi.life k
  · intro x hx hp
    rw [dedup_append_one] at hx
    rcases List.mem_append.mp hx with h | h
    · rw [List.mem_filter] at h
      exact absurd hp (hpend x h.1 (by simpa using h.2))
    · rw [List.mem_singleton.1 h, List.getLast?_concat]

/-- accept and cancel: the record resolves the pending pledge, which is the last record -/
theorem inv_resolve (s : Store) (l r : Rec) (hi : Inv s) (hpos : 0 < r.ts) (hl : s.getLast? = some l)
    (hls : l.state = .pledging) (hlk : l.signer = r.signer)
    (hst : r.state = .accepted ∨ r.state = .cancelled) : Inv (s ++ [r]) := by
  apply inv_append s r hi hpos
  · have := hist_last_of_getLast s l hl
    rw [hlk, hls] at this
    rw [allowed_last_pledging _ (hi.life _) this]
    rcases hst with h | h <;> rw [h] <;> decide
  · intro x hx hne hp
    have := hi.pendingLast x hx hp
    rw [hl] at this; cases this
    exact hne hlk

def stateOf : OpKind → NState
  | .pledge => .pledging
  | .accept => .accepted
  | .genesis => .accepted
  | .cancel => .cancelled
  | .remove => .removed

/-- Inside the timestamp discipline every accepted non-genesis
    operation keeps the invariant and appends exactly its own record. -/
theorem step_inv (c : Cfg) (s s' : Store) (o : Op) (hi : Inv s) (hf : Fresh c s o.ts)
    (hg : o.kind ≠ .genesis) (h : write c s o = .ok s') :
    Inv s' ∧ s' = s ++ [⟨o.ts, o.signer, o.payee, o.tx, stateOf o.kind⟩] := by
  obtain ⟨kind, k, p, t, ts⟩ := o
  cases kind with
  | genesis => exact absurd rfl hg
  | pledge =>
    obtain ⟨h1, h2, _, rfl⟩ := pledge_accepted c s s' k p t ts hf h
    refine ⟨inv_append s _ hi hf.1 ?_ fun x hx _ => h1 x hx, rfl⟩
    rw [hist_nil_of_absent s k h2]; exact (by decide : [NState.pledging] ∈ allowed)
  | accept =>
    obtain ⟨⟨l, hl, hls, hlk, _⟩, rfl⟩ := accept_accepted c s s' k p t ts hf h
    exact ⟨inv_resolve s l _ hi hf.1 hl hls hlk (Or.inl rfl), rfl⟩
  | cancel =>
    obtain ⟨⟨l, hl, hls, hlk, _⟩, rfl⟩ := cancel_accepted c s s' k p t ts hf h
    exact ⟨inv_resolve s l _ hi hf.1 hl hls hlk (Or.inr rfl), rfl⟩
  | remove =>
    obtain ⟨⟨n, hn, hns, _⟩, ⟨l, hl, hls⟩, rfl⟩ := remove_accepted c s s' k p t ts hf h
    refine ⟨inv_append s _ hi hf.1 ?_ fun x hx _ hp => ?_, rfl⟩
    · have := hist_getLast? s k
      rw [hn, Option.map_some, hns] at this
      rcases allowed_last_accepted _ (hi.life k) this with h | h <;> rw [h] <;> simp [allowed]
    · have := hi.pendingLast x hx hp
      rw [hl] at this; cases this
      rw [hp] at hls; cases hls

/-- the base case: the genesis file — accepted nodes with distinct signer keys -/
def GenesisStore (g : Store) : Prop :=
  (∀ r ∈ g, r.state = .accepted ∧ 0 < r.ts) ∧ (g.map (·.signer)).Nodup

theorem genesis_hist (g : Store) (k : Nat) (h1 : ∀ r ∈ g, r.state = .accepted)
    (h2 : (g.map (·.signer)).Nodup) : hist g k = [] ∨ hist g k = [.accepted] := by
  induction g with
  | nil => left; rfl
  | cons a rest ih =>
    rw [List.map_cons, List.nodup_cons] at h2
    rw [hist_cons]
    by_cases ha : a.signer = k
    · right
      have hn : hist rest k = [] :=
        hist_nil_of_absent rest k fun r hr hk => h2.1 (List.mem_map.mpr ⟨r, hr, hk.trans ha.symm⟩)
      simp [ha, hn, h1 a (List.mem_cons_self ..)]
    · simpa [ha] using ih (fun r hr => h1 r (List.mem_cons_of_mem _ hr)) h2.2

theorem genesis_inv (g : Store) (hg : GenesisStore g) : Inv g := by
  obtain ⟨h1, h2⟩ := hg
  refine ⟨fun r hr => (h1 r hr).2, fun k => ?_, fun r hr hp => ?_⟩
  · rcases genesis_hist g k (fun r hr => (h1 r hr).1) h2 with h | h <;> rw [h] <;> decide
  · rw [(h1 r (dedup_sub g r hr)).1] at hp; cases hp

/-- an operation sequence inside the discipline: no genesis writes, and every operation that
    the store accepts carries a timestamp fresh for the history it is applied to (rejected
    operations may carry any timestamp) -/
def Disciplined (c : Cfg) : Store → List Op → Prop
  | _, [] => True
  | s, o :: rest =>
    o.kind ≠ .genesis ∧ (∀ s', write c s o = .ok s' → Fresh c s o.ts) ∧ Disciplined c (step c s o) rest

/-- From the genesis nodes, over every operation sequence inside the
    timestamp discipline — valid and invalid operations mixed — the history keeps the
    invariant. -/
theorem lifecycle_invariant (c : Cfg) (s : Store) (ops : List Op) (hi : Inv s)
    (hd : Disciplined c s ops) : Inv (run c s ops) := by
  induction ops generalizing s with
  | nil => exact hi
  | cons o rest ih =>
    obtain ⟨hg, hfr, hrest⟩ := hd
    refine ih _ ?_ hrest
    unfold step
    cases hw : write c s o with
    | ok s' => exact (step_inv c s s' o hi (hfr s' hw) hg hw).1
    | reject => exact hi
    | panic => exact hi

theorem reachable_inv (c : Cfg) (g : Store) (ops : List Op) (hg : GenesisStore g)
    (hd : Disciplined c g ops) : Inv (run c g ops) :=
  lifecycle_invariant c g ops (genesis_inv g hg) hd

/-- In every reachable history each signer key has one of the seven
    lifecycles: it is born at most once (one genesis accept or one pledge), so signer keys
    never repeat across nodes; a pledge is followed only by its accept or cancel, an accept
    only by its remove. -/
theorem signer_keys_unique (c : Cfg) (g : Store) (ops : List Op) (hg : GenesisStore g)
    (hd : Disciplined c g ops) (k : Nat) :
    hist (run c g ops) k ∈ allowed ∧ (hist (run c g ops) k).count .pledging ≤ 1 ∧
      ((hist (run c g ops) k).drop 1).all (· != .pledging) = true :=
  have hm := (reachable_inv c g ops hg hd).life k
  ⟨hm, allowed_pledging_once _ hm⟩

/-- In every reachable history at most one node's latest state is
    pledging, and it is the most recent record. -/
theorem at_most_one_pending (c : Cfg) (g : Store) (ops : List Op) (hg : GenesisStore g)
    (hd : Disciplined c g ops) (r1 r2 : Rec)
    (h1 : r1 ∈ dedup (run c g ops)) (h2 : r2 ∈ dedup (run c g ops))
    (p1 : r1.state = .pledging) (p2 : r2.state = .pledging) :
    r1 = r2 ∧ (run c g ops).getLast? = some r1 := by
  have hi := reachable_inv c g ops hg hd
  have a := hi.pendingLast r1 h1 p1
  have b := hi.pendingLast r2 h2 p2
  rw [a] at b
  exact ⟨Option.some.inj b, a⟩

def cfg12h : Cfg := ⟨43200000000000, 43200000000000⟩

/- the regenerated constants are the periods used in the examples -/
example : cfg12h = ⟨Mixin.Facts.Gen.config_KernelNodePledgePeriodMinimum,
    Mixin.Facts.Gen.config_KernelNodeAcceptPeriodMinimum⟩ := rfl

/-- the four state strings written by the storage layer are pairwise distinct -/
theorem state_strings_distinct :
    [Mixin.Facts.Gen.common_NodeStatePledging, Mixin.Facts.Gen.common_NodeStateAccepted,
     Mixin.Facts.Gen.common_NodeStateRemoved, Mixin.Facts.Gen.common_NodeStateCancelled].Nodup := by
  decide

def g2 : Store := [⟨100, 1, 11, 21, .accepted⟩, ⟨100, 2, 12, 22, .accepted⟩]

example : GenesisStore g2 := by
  constructor
  · intro r hr; simp [g2] at hr; rcases hr with rfl | rfl <;> simp
  · decide

/- the first operation of `opsOk` below carries a timestamp fresh for `g2` -/
example : Fresh cfg12h g2 200 := by
  refine ⟨by decide, ?_, by decide, by decide⟩
  intro r hr; simp [g2] at hr; rcases hr with rfl | rfl <;> simp

def opsOk : List Op :=
  [⟨.pledge, 3, 13, 23, 200⟩, ⟨.pledge, 4, 14, 24, 300⟩, ⟨.accept, 3, 14, 25, 400⟩,
   ⟨.accept, 3, 13, 26, 500⟩, ⟨.remove, 1, 11, 27, 600⟩, ⟨.pledge, 1, 11, 28, 700⟩,
   ⟨.pledge, 5, 15, 29, 800⟩, ⟨.cancel, 5, 15, 30, 900⟩, ⟨.pledge, 5, 15, 31, 1000⟩]

/- a mixed sequence: the lifecycle runs, the invalid operations are rejected -/
example : (run cfg12h g2 opsOk).map (fun r => (r.signer, r.state)) =
    [(1, .accepted), (2, .accepted), (3, .pledging), (3, .accepted), (1, .removed),
     (5, .pledging), (5, .cancelled)] := by decide

/-- outside the discipline the statement fails in the model (and on the real store, see the
    harness corpus): a pledge dated more than 12 h before a pending pledge does not see it -/
theorem pledge_while_pending_outside_discipline :
    ∃ s', writePledge cfg12h [⟨100, 1, 11, 21, .accepted⟩, ⟨100000000000000, 2, 12, 22, .pledging⟩]
        3 13 23 50000000000000 = .ok s' ∧
      (s'.filter (fun r => r.state == .pledging)).length = 2 := by
  refine ⟨_, rfl, ?_⟩; decide

end Mixin.C27
