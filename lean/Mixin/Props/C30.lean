import Mixin.Model.Auth
import Mixin.Proofs.PeerMsg
import Mixin.Facts.ExpectedC30
/-!
# C30 — peer authentication binds identity, recipient, freshness and role

Theorems about `Mixin.Model.Auth` (`kernel/node.go` `BuildAuthenticationMessage`, `AuthenticateAs`).
Signature validity and the key → peer id derivation are an arbitrary `Oracle`; unforgeability is
*not* a theorem — what is proved is which bytes the one signature check covers.
-/
namespace Mixin.C30
open Mixin.Auth
open Mixin.Proto (Bytes)

theorem authenticateAs_eq (O : Oracle) (recipient msg : Bytes) (timeout now : Int) :
    authenticateAs O recipient msg timeout now =
      if msg.length = 137 ∧ (timeout ≤ 0 ∨ skewExceeds now (tsOf msg) timeout = false) ∧
          recipientOf msg = recipient ∧ O.idOf (keyOf msg) ≠ recipient ∧
          O.verify (keyOf msg) (prefixOf msg) (sigOf msg) = true
      then some { peerId := O.idOf (keyOf msg), timestamp := tsOf msg, isRelayer := flagOf msg == 1,
                  data := msg }
      else none := by
  apply Option.ext
  intro tok
  -- `(if c then none else x) = some tok ↔ ¬c ∧ x = some tok` at each guard; the rest puts each `¬c` in positive form
  simp only [authenticateAs, Option.ite_none_left_eq_some, Option.ite_none_right_eq_some,
    Decidable.not_not, Decidable.not_and_iff_not_or_not, Int.not_lt, Bool.not_eq_true, Bool.not_eq_false,
    gt_iff_lt, ne_eq, and_assoc]

/-- A message authenticates at `recipient` exactly when it has 137 bytes, is
    fresh (or the caller disabled freshness with `timeout ≤ 0`), names `recipient`, does not
    come from `recipient` itself, and carries a signature by the key it names over its first
    73 bytes. -/
theorem auth_accept_iff (O : Oracle) (recipient msg : Bytes) (timeout now : Int) :
    (authenticateAs O recipient msg timeout now).isSome = true ↔
      msg.length = 137 ∧
      (timeout ≤ 0 ∨ skewExceeds now (tsOf msg) timeout = false) ∧
      recipientOf msg = recipient ∧
      O.idOf (keyOf msg) ≠ recipient ∧
      O.verify (keyOf msg) (prefixOf msg) (sigOf msg) = true := by
  rw [authenticateAs_eq]
  exact Option.isSome_ite

/-- what an accepted message guarantees, and the token it yields -/
theorem auth_sound {O : Oracle} {recipient msg : Bytes} {timeout now : Int} {tok : Token}
    (h : authenticateAs O recipient msg timeout now = some tok) :
    (msg.length = 137 ∧ (timeout ≤ 0 ∨ skewExceeds now (tsOf msg) timeout = false) ∧
      recipientOf msg = recipient ∧ O.idOf (keyOf msg) ≠ recipient ∧
      O.verify (keyOf msg) (prefixOf msg) (sigOf msg) = true) ∧
    tok = { peerId := O.idOf (keyOf msg), timestamp := tsOf msg, isRelayer := flagOf msg == 1,
            data := msg } := by
  rw [authenticateAs_eq] at h
  split at h
  · exact ⟨‹_›, (Option.some.inj h).symm⟩
  · cases h

/-- The authenticated identity is derived from the key in the message, the
    role from byte 72, the timestamp from bytes [0,8). -/
theorem auth_token_fields (O : Oracle) (recipient msg : Bytes) (timeout now : Int) (tok : Token)
    (h : authenticateAs O recipient msg timeout now = some tok) :
    tok.peerId = O.idOf (keyOf msg) ∧ tok.isRelayer = (flagOf msg == 1) ∧ tok.timestamp = tsOf msg ∧
    tok.data = msg := by
  rw [(auth_sound h).2]
  exact ⟨rfl, rfl, rfl, rfl⟩

theorem wrong_recipient_rejected (O : Oracle) (recipient msg : Bytes) (timeout now : Int)
    (h : recipientOf msg ≠ recipient) : authenticateAs O recipient msg timeout now = none := by
  rw [authenticateAs_eq, if_neg fun ⟨_, _, hr, _⟩ => h hr]

theorem self_rejected (O : Oracle) (recipient msg : Bytes) (timeout now : Int)
    (h : O.idOf (keyOf msg) = recipient) : authenticateAs O recipient msg timeout now = none := by
  rw [authenticateAs_eq, if_neg fun ⟨_, _, _, hself, _⟩ => hself h]

theorem bad_signature_rejected (O : Oracle) (recipient msg : Bytes) (timeout now : Int)
    (h : O.verify (keyOf msg) (prefixOf msg) (sigOf msg) = false) :
    authenticateAs O recipient msg timeout now = none := by
  rw [authenticateAs_eq, if_neg fun ⟨_, _, _, _, hv⟩ => Bool.false_ne_true (h.symm.trans hv)]

/-- `timeout ≤ 0` switches freshness off by API contract (relayer-vouched consumers are
    authenticated with timeout 0): any timestamp passes -/
theorem nonpositive_timeout_disables_freshness (O : Oracle) (recipient msg : Bytes) (timeout now now' : Int)
    (ht : timeout ≤ 0) :
    (authenticateAs O recipient msg timeout now).isSome = (authenticateAs O recipient msg timeout now').isSome := by
  simp only [authenticateAs_eq, ht, true_or]

/-! ## freshness: the float64 comparison is the integer comparison below 2^53 -/

theorem roundF64_small (x : Int) (h : x.natAbs < 2 ^ 53) : roundF64 x = x := if_pos h

/-- For a non-negative clock, timestamp and timeout below 2^53 (seconds: 285 million years) the
    Go expression `math.Abs(float64(now)-float64(ts)) > float64(timeout)` is `|now - ts| > timeout`. -/
theorem skew_int (now : Int) (ts : Nat) (timeout : Int) (hn0 : 0 ≤ now) (hn : now < 2 ^ 53) (hts : ts < 2 ^ 53)
    (ht : timeout.natAbs < 2 ^ 53) :
    skewExceeds now ts timeout = decide ((now - (ts : Int)).natAbs > timeout) := by
  unfold skewExceeds
  rw [roundF64_small now (by omega), roundF64_small ts (by omega), roundF64_small _ (by omega),
    roundF64_small _ ht]

/-- a stale or premature message is rejected when freshness is on (integer range) -/
theorem stale_rejected (O : Oracle) (recipient msg : Bytes) (timeout now : Int)
    (hn0 : 0 ≤ now) (hn : now < 2 ^ 53) (hts : tsOf msg < 2 ^ 53) (ht0 : 0 < timeout) (ht : timeout < 2 ^ 53)
    (hstale : (now - (tsOf msg : Int)).natAbs > timeout) :
    authenticateAs O recipient msg timeout now = none := by
  rw [authenticateAs_eq, if_neg]
  rintro ⟨_, h | h, _⟩
  · omega
  · rw [skew_int now _ timeout hn0 hn hts (by omega), decide_eq_false_iff_not] at h
    exact h hstale

/-! ## the one signature check covers the timestamp, the recipient, the key and the role byte -/

/-- every field `AuthenticateAs` reads, except the signature itself, is a function of the
    signed prefix `msg[0:73]` -/
theorem fields_of_signed_prefix (msg : Bytes) :
    tsOf msg = beNat ((prefixOf msg).take 8) ∧
    recipientOf msg = ((prefixOf msg).drop 8).take 32 ∧
    keyOf msg = ((prefixOf msg).drop 40).take 32 ∧
    flagOf msg = ((prefixOf msg).drop 72).headD 0 := by
  unfold tsOf recipientOf keyOf flagOf prefixOf
  refine ⟨?_, ?_, ?_, ?_⟩
  · rw [List.take_take]; simp
  · rw [List.drop_take, List.take_take]; simp
  · rw [List.drop_take, List.take_take]; simp
  · rw [List.drop_take]
    cases List.drop 72 msg <;> simp

theorem same_prefix_same_fields (m1 m2 : Bytes) (h : prefixOf m1 = prefixOf m2) :
    tsOf m1 = tsOf m2 ∧ recipientOf m1 = recipientOf m2 ∧ keyOf m1 = keyOf m2 ∧ flagOf m1 = flagOf m2 := by
  obtain ⟨a1, b1, c1, d1⟩ := fields_of_signed_prefix m1
  obtain ⟨a2, b2, c2, d2⟩ := fields_of_signed_prefix m2
  rw [a1, a2, b1, b2, c1, c2, d1, d2, h]
  exact ⟨rfl, rfl, rfl, rfl⟩

/-- The relayer flag is signed: if two accepted messages yield different roles (or different
    identities, or timestamps), then the signature oracle was asked about — and accepted — two
    *different* signed strings: a role cannot be changed while keeping the string that was signed.
    (That a signature for the other string cannot be produced without the key is the
    unforgeability assumption, outside the model.) -/
theorem flag_is_signed (O : Oracle) (r1 r2 m1 m2 : Bytes) (to1 to2 now1 now2 : Int) (t1 t2 : Token)
    (h1 : authenticateAs O r1 m1 to1 now1 = some t1) (h2 : authenticateAs O r2 m2 to2 now2 = some t2)
    (hd : t1.isRelayer ≠ t2.isRelayer ∨ t1.peerId ≠ t2.peerId ∨ t1.timestamp ≠ t2.timestamp ∨ r1 ≠ r2) :
    prefixOf m1 ≠ prefixOf m2 ∧
    O.verify (keyOf m1) (prefixOf m1) (sigOf m1) = true ∧ O.verify (keyOf m2) (prefixOf m2) (sigOf m2) = true := by
  obtain ⟨⟨_, _, hr1, _, v1⟩, rfl⟩ := auth_sound h1
  obtain ⟨⟨_, _, hr2, _, v2⟩, rfl⟩ := auth_sound h2
  refine ⟨fun hp => ?_, v1, v2⟩
  obtain ⟨e1, e2, e3, e4⟩ := same_prefix_same_fields m1 m2 hp
  rcases hd with hd | hd | hd | hd
  · exact hd (congrArg (· == 1) e4)
  · exact hd (congrArg O.idOf e3)
  · exact hd e1
  · exact hd (hr1.symm.trans (e2.trans hr2))

/-- changing any single byte among the first 73 changes the signed prefix -/
theorem mutation_changes_signed_prefix (m1 m2 : Bytes) (i : Nat) (hi : i < 73)
    (hne : m1[i]? ≠ m2[i]?) : prefixOf m1 ≠ prefixOf m2 := by
  intro h
  have e : ∀ m : Bytes, (prefixOf m)[i]? = m[i]? := fun m => by
    unfold prefixOf; rw [List.getElem?_take, if_pos hi]
  exact hne (by rw [← e m1, ← e m2, h])

/-! ## what the builder produces authenticates at its recipient -/

/-- the timestamp is written and read by the big-endian codec of the peer messages (`Proofs/PeerMsg`) -/
theorem beBytes_eq (n v : Nat) : beBytes n v = PeerMsg.beBytes n v := by
  induction n generalizing v with
  | zero => rfl
  | succ n ih => rw [beBytes, ih]; rfl

theorem length_beBytes (n v : Nat) : (beBytes n v).length = n :=
  beBytes_eq n v ▸ PeerMsg.length_beBytes n v

theorem beNat_beBytes (n v : Nat) : beNat (beBytes n v) = v % 256 ^ n :=
  beBytes_eq n v ▸ PeerMsg.beNat_beBytes n v

theorem build_layout {msg ts r key sig : Bytes} {f : UInt8} (hm : msg = ts ++ (r ++ (key ++ [f])) ++ sig)
    (ht : ts.length = 8) (hr : r.length = 32) (hk : key.length = 32) :
    msg.length = 73 + sig.length ∧ prefixOf msg = ts ++ (r ++ (key ++ [f])) ∧ tsOf msg = beNat ts ∧
    recipientOf msg = r ∧ keyOf msg = key ∧ flagOf msg = f ∧ sigOf msg = sig.take 64 := by
  have hp : (ts ++ (r ++ (key ++ [f]))).length = 73 := by simp [ht, hr, hk]
  have hpre : prefixOf msg = ts ++ (r ++ (key ++ [f])) := hm ▸ List.take_left' hp
  obtain ⟨a, b, c, d⟩ := fields_of_signed_prefix msg
  rw [hpre] at a b c d
  refine ⟨by rw [hm, List.length_append, hp], hpre, ?_, ?_, ?_, ?_, ?_⟩
  · rw [a, List.take_left' ht]
  · rw [b, List.drop_left' ht, List.take_left' hr]
  · rw [c, show 40 = 8 + 32 from rfl, ← List.drop_drop, List.drop_left' ht, List.drop_left' hr,
      List.take_left' hk]
  · rw [d, show 72 = 8 + (32 + 32) from rfl, ← List.drop_drop, ← List.drop_drop, List.drop_left' ht,
      List.drop_left' hr, List.drop_left' hk]
    rfl
  · rw [hm]
    exact congrArg (List.take 64) (List.drop_left' hp)

/-- A message built at clock `now` for `recipient`, signed by `key`
    (the oracle accepts `sig` over the 73-byte prefix), authenticates at `recipient` at clock
    `now'` whenever `|now' - now| ≤ timeout` (or freshness is off), with the sender's identity,
    role and timestamp — provided the sender is not the recipient. -/
theorem build_then_auth (O : Oracle) (now now' timeout : Int) (r key sig : Bytes) (relayer : Bool)
    (hr : r.length = 32) (hk : key.length = 32) (hs : sig.length = 64)
    (hv : O.verify key (signedPrefix now r key relayer) sig = true)
    (hself : O.idOf key ≠ r)
    (hn0 : 0 ≤ now) (hn : now < 2 ^ 53) (hn0' : 0 ≤ now') (hn' : now' < 2 ^ 53) (hto : timeout < 2 ^ 53)
    (hfresh : timeout ≤ 0 ∨ (now' - now).natAbs ≤ timeout) :
    authenticateAs O r (buildAuth now r key relayer sig) timeout now' =
      some { peerId := O.idOf key, timestamp := now.toNat, isRelayer := relayer,
             data := buildAuth now r key relayer sig } := by
  obtain ⟨hlen, lp, lt, lr, lk, lf, ls⟩ :=
    build_layout (msg := buildAuth now r key relayer sig) rfl (length_beBytes 8 _) hr hk
  rw [hs] at hlen
  generalize buildAuth now r key relayer sig = msg at *
  have hts : tsOf msg = now.toNat := by
    rw [lt, beNat_beBytes, Int.emod_eq_of_lt hn0 (by omega)]
    exact Nat.mod_eq_of_lt (by omega)
  rw [authenticateAs_eq, if_pos, lk, hts, lf]
  · cases relayer <;> rfl
  · refine ⟨hlen, ?_, lr, by rw [lk]; exact hself, ?_⟩
    · refine hfresh.imp_right fun h => ?_
      have h0 : 0 ≤ timeout := Int.le_trans (Int.natCast_nonneg _) h
      rw [hts, skew_int now' now.toNat timeout hn0' hn' (by omega) (by omega), Int.toNat_of_nonneg hn0,
        decide_eq_false_iff_not]
      exact Int.not_lt.mpr h
    · rw [lk, lp, ls, List.take_of_length_le (Nat.le_of_eq hs)]
      exact hv

/-! ## timestamps where float64 rounds are still rejected under realistic clocks -/

/-- `a` rounded to 53 significant bits: the magnitude of `roundF64` from 2^53 on -/
def round53 (a : Nat) : Nat :=
  let e := Nat.log2 a - 52
  let q := a / 2 ^ e
  let r := a % 2 ^ e
  let half := 2 ^ (e - 1)
  (if r > half ∨ (r = half ∧ q % 2 = 1) then q + 1 else q) * 2 ^ e

theorem roundF64_eq (x : Int) :
    roundF64 x = if x.natAbs < 2 ^ 53 then x else if x < 0 then -(round53 x.natAbs : Int) else round53 x.natAbs :=
  rfl

theorem round53_ge {a : Nat} (h : 2 ^ 53 ≤ a) : 2 ^ 53 ≤ round53 a := by
  have ha : a ≠ 0 := by omega
  have hlog : 53 ≤ a.log2 := (Nat.le_log2 ha).mpr h
  unfold round53
  generalize he : a.log2 - 52 = e
  -- the 53-bit quotient is at least 2^52 because 2^(52+e) ≤ a, and e ≥ 1: the product is at least 2^53
  have hq : 2 ^ 52 ≤ a / 2 ^ e := by
    rw [Nat.le_div_iff_mul_le (Nat.pow_pos (by decide)), ← Nat.pow_add, show 52 + e = a.log2 by omega]
    exact Nat.log2_self_le ha
  have h2e : 2 ^ 1 ≤ 2 ^ e := Nat.pow_le_pow_right (by decide) (by omega)
  calc 2 ^ 53 = 2 ^ 52 * 2 ^ 1 := rfl
    _ ≤ a / 2 ^ e * 2 ^ e := Nat.mul_le_mul hq h2e
    _ ≤ _ := Nat.mul_le_mul_right _ (by split <;> omega)

theorem roundF64_sign (x : Int) : (0 ≤ x → 0 ≤ roundF64 x) ∧ (x ≤ 0 → roundF64 x ≤ 0) := by
  rw [roundF64_eq]
  split
  · exact ⟨id, id⟩
  · split
    · exact ⟨fun h => by omega, fun _ => Int.neg_nonpos_of_nonneg (Int.natCast_nonneg _)⟩
    · exact ⟨fun _ => Int.natCast_nonneg _, fun h => by omega⟩

theorem roundF64_large {x : Int} {k : Nat} (hk : k ≤ 2 ^ 53) (h : k ≤ x.natAbs) :
    k ≤ (roundF64 x).natAbs := by
  rw [roundF64_eq]
  split
  · exact h
  · have := round53_ge (Nat.le_of_not_lt ‹_›)
    split
    · rw [Int.natAbs_neg, Int.natAbs_natCast]; omega
    · rw [Int.natAbs_natCast]; omega

/-- A timestamp at or beyond 2^53 (where float64 starts rounding) is rejected as stale under any
    realistic clock and timeout: the rounding never brings it back into the window. -/
theorem far_future_skew (now : Int) (ts : Nat) (timeout : Int) (hn0 : 0 ≤ now) (hn : now < 2 ^ 52)
    (hts : 2 ^ 53 ≤ ts) (ht : timeout < 2 ^ 52) : skewExceeds now ts timeout = true := by
  unfold skewExceeds
  rw [roundF64_small now (by omega)]
  have hT : (2 : Int) ^ 53 ≤ roundF64 ts := by
    have a := roundF64_large (x := ts) (Nat.le_refl _) hts
    have b := (roundF64_sign ts).1 (Int.natCast_nonneg _)
    omega
  have hD := roundF64_large (x := now - roundF64 ts) (k := 2 ^ 52 + 1) (by decide) (by omega)
  have hTO : roundF64 timeout < 2 ^ 52 := by
    by_cases hs : timeout.natAbs < 2 ^ 53
    · rw [roundF64_small _ hs]; exact ht
    · have := (roundF64_sign timeout).2 (by omega)
      omega
  exact decide_eq_true (by omega)

/-! ## beyond 2^53 the float comparison is *not* the integer one (documented, harmless: the
timestamp would be 285 million years ahead) -/

/-- timestamp 2^53+1 against clock 0 and timeout 2^53: the integer skew 2^53+1 exceeds the
    timeout, the float64 skew (2^53+1 rounds to 2^53) does not -/
theorem skew_float_differs_beyond_2_53 :
    skewExceeds 0 (2 ^ 53 + 1) (2 ^ 53) = false ∧ ((0 : Int) - ((2 ^ 53 + 1 : Nat) : Int)).natAbs > (2 ^ 53 : Int) := by
  decide +kernel

def oracleEx : Oracle := { idOf := fun k => k.take 1, verify := fun _ p g => p.length == 73 && g.length == 64 }
def zeros (n : Nat) : Bytes := List.replicate n 0

example : authenticateAs oracleEx (zeros 32) (buildAuth 1700000000 (zeros 32) (List.replicate 32 7) true (zeros 64)) 10 1700000010 =
    some { peerId := [7], timestamp := 1700000000, isRelayer := true,
           data := buildAuth 1700000000 (zeros 32) (List.replicate 32 7) true (zeros 64) } :=
  build_then_auth oracleEx 1700000000 1700000010 10 _ _ _ true (by decide) (by decide) (by decide) (by decide)
    (by decide) (by decide) (by decide) (by decide) (by decide) (by decide) (Or.inr (by decide))
example : authenticateAs oracleEx (zeros 32) (buildAuth 1700000000 (zeros 32) (List.replicate 32 7) true (zeros 64)) 10 1700000011 = none :=
  stale_rejected oracleEx _ _ 10 1700000011 (by decide) (by decide) (by decide) (by decide) (by decide) (by decide)
example : authenticateAs oracleEx (zeros 32) (zeros 136) 10 0 = none := by decide +kernel
example : skewExceeds 1700000011 1700000000 10 = true ∧ skewExceeds 1700000010 1700000000 10 = false ∧
    skewExceeds 1699999990 1700000000 10 = false ∧ skewExceeds 1699999989 1700000000 10 = true := by decide +kernel

end Mixin.C30
