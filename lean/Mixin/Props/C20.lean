import Mixin.Model.Graph
import Mixin.Proofs.Basics
import Mixin.Facts.ExpectedC20
/-!
# C20 — round links only move forward and never point at their own chain

Theorems about `Mixin.Model.Graph` (model of `kernel/graph.go` startNewRoundAndPersist /
validateNewRound / updateEmptyHeadRoundAndPersist / updateExternal and of
`storage/badger_round.go` StartNewRound / UpdateEmptyHeadRound).

**Finding.**  The property as written is *false of the code*: ROUND records of live head rounds
are stored under the node id (`Hash = NodeId`), so a node id presented as `references.External`
passes every check of the finalized path — the accepted reference then names the other chain's
*live* round (`external_names_live_round_counterexample`), and the dummy-external branch later
re-reads that moving record, after which the in-memory links differ from the durable ones and the
next `updateExternal` panics (`mirror_diverges_counterexample`).  Both witnesses are replayed on
the real kernel by the harness corpus (known findings `C20:external-names-live-round`,
`C20:mirror-diverged`).

The full-strength statements are therefore proved under the hypothesis the code forgets to
enforce — *the presented external reference is not the id of a chain* (`OpOk`, or `refs.ext ∉ ids`
for a single transition) — and are named `…_partial`.  `external_known_foreign_empty_partial`
carries the hypothesis like the others, although what it states of an empty-head update holds
without it.
-/
namespace Mixin.C20
open Mixin.Graph

theorem guard_ok {ε α : Type} {c : Prop} [Decidable c] {e : ε} {x : Except ε α} {a : α} :
    (if c then .error e else x) = .ok a ↔ ¬c ∧ x = .ok a :=
  ite_eq_iff_of_ne nofun

theorem badRec_some {s : Store} {k : Nat} {e : RoundRec} (he : s.rounds k = some e) :
    badRec s k = (e.hash == 0) := by
  unfold badRec; rw [he]

theorem updateExternal_ok {s : Store} {cid : Nat} {ch ch' : Chain} {e : RoundRec} {strict oracle : Bool}
    (h : updateExternal s cid ch e strict oracle = .ok ch') :
    cid ≠ e.node ∧ ch.links e.node ≤ e.number ∧
      ch' = { ch with links := fun x => if x = e.node then e.number else ch.links x } := by
  simp only [updateExternal, guard_ok] at h
  obtain ⟨h1, h2, -, -, h5⟩ := h
  exact ⟨h1, Nat.le_of_not_lt h2, (Except.ok.inj h5).symm⟩

theorem storeStart_ok {s s' : Store} {node number : Nat} {refs : Refs} {fs : Nat} (hn : number ≠ 0)
    (h : storeStartNewRound s node number refs fs = some s') :
    ∃ self e, s.rounds node = some self ∧ s.rounds refs.ext = some e ∧ e.hash ≠ 0 ∧
      self.number + 1 = number ∧ e.node ≠ self.node ∧ s.rounds refs.self = none ∧
      s.links node e.node ≤ e.number ∧
      s' = writeRound (writeRound (writeLink s node e.node e.number) refs.self
              { self with ts := fs, hash := refs.self }) node (headRec node number refs) := by
  unfold storeStartNewRound at h
  rw [if_neg hn, Option.ite_none_left_eq_some] at h
  obtain ⟨hbad, h⟩ := h
  split at h
  · next self e hs he =>
    rw [Option.ite_none_left_eq_some] at h
    obtain ⟨hc, h⟩ := h
    simp only [Bool.or_eq_true, not_or, badRec_some he, beq_iff_eq] at hbad
    simp only [not_or, Decidable.not_not, Option.not_isSome_iff_eq_none, Nat.not_lt] at hc
    exact ⟨self, e, hs, he, hbad.1.2, hc.1, hc.2.1, hc.2.2.1, hc.2.2.2, (Option.some.inj h).symm⟩
  · cases h

theorem storeEmpty_ok {s s' : Store} {node number : Nat} {refs : Refs}
    (h : storeUpdateEmptyHead s node number refs = some s') :
    ∃ e, s.rounds refs.ext = some e ∧
      s' = writeRound (writeLink s node e.node e.number) node (headRec node number refs) := by
  unfold storeUpdateEmptyHead at h
  rw [Option.ite_none_left_eq_some] at h
  obtain ⟨-, h⟩ := h
  split at h
  · next self e _ he =>
    split at h
    · cases h
    · rw [Option.ite_none_left_eq_some] at h
      exact ⟨e, he, (Option.some.inj h.2).symm⟩
  · cases h

theorem persist_ok {w w' : World} {cid : Nat} {ch ch' : Chain} {refs : Refs} {fh fs : Nat} {dummy d : Bool}
    (h : persistNewRound w cid ch ch' refs fh fs dummy = .ok (w', d)) :
    d = dummy ∧ ∃ s', storeStartNewRound w.store cid (ch.cacheNumber + 1)
        (dummyRefs ch refs dummy) fs = some s' ∧
      w' = setChain w cid (advance ch ch' (dummyRefs ch refs dummy) fh fs) s' := by
  unfold persistNewRound at h
  split at h
  · cases h
  · next s' hs =>
    cases h
    exact ⟨rfl, s', hs, rfl⟩

/-- a successful `startNewRoundAndPersist`: the round start is persisted with
    the references `dummyRefs … d`; `d` tells whether the external reference was unknown (dummy
    branch, finalized path only, links untouched) or known and accepted by `updateExternal` -/
theorem start_ok {w w' : World} {cid : Nat} {refs : Refs} {fin oracle d : Bool}
    (h : startNewRound w cid refs fin oracle = .ok (w', d)) :
    ∃ fh fs ch' s', (w.chains cid).closing = some (fh, fs) ∧ refs.self = fh ∧
      storeStartNewRound w.store cid ((w.chains cid).cacheNumber + 1)
        (dummyRefs (w.chains cid) refs d) fs = some s' ∧
      w' = setChain w cid (advance (w.chains cid) ch' (dummyRefs (w.chains cid) refs d) fh fs) s' ∧
      ((d = true ∧ fin = true ∧ w.store.rounds refs.ext = none ∧ ch' = w.chains cid) ∨
       (d = false ∧ ∃ e, w.store.rounds refs.ext = some e ∧ e.hash = refs.ext ∧
          updateExternal w.store cid (w.chains cid) e (!fin) oracle = .ok ch')) := by
  unfold startNewRound at h
  rcases hcl : (w.chains cid).closing with _ | ⟨fh, fs⟩ <;> simp only [hcl] at h
  · cases h
  simp only [guard_ok] at h
  obtain ⟨hself, -, h⟩ := h
  refine ⟨fh, fs, ?_⟩
  rcases he : w.store.rounds refs.ext with _ | e <;> simp only [he] at h
  · cases fin
    · cases h
    · obtain ⟨rfl, s', hs, hw⟩ := persist_ok h
      exact ⟨_, s', rfl, Decidable.not_not.mp hself, hs, hw, .inl ⟨rfl, rfl, rfl, rfl⟩⟩
  · rw [guard_ok] at h
    obtain ⟨hh, h⟩ := h
    split at h
    · cases h
    · next ch' hu =>
      obtain ⟨rfl, s', hs, hw⟩ := persist_ok h
      exact ⟨ch', s', rfl, Decidable.not_not.mp hself, hs, hw, .inr ⟨rfl, e, rfl,
        Decidable.not_not.mp hh, hu⟩⟩

theorem empty_ok {w w' : World} {cid : Nat} {refs : Refs} {strict oracle : Bool}
    (h : updateEmptyHead w cid refs strict oracle = .ok w') :
    ∃ e, w.store.rounds refs.ext = some e ∧ e.hash = refs.ext ∧ e.hash ≠ 0 ∧ cid ≠ e.node ∧
      (w.chains cid).links e.node ≤ e.number ∧
      w' = setChain w cid
        { w.chains cid with
          cacheRefs := refs
          links := fun x => if x = e.node then e.number else (w.chains cid).links x }
        (writeRound (writeLink w.store cid e.node e.number) cid
          (headRec cid (w.chains cid).cacheNumber refs)) := by
  simp only [updateEmptyHead, guard_ok] at h
  obtain ⟨-, -, hbad, h⟩ := h
  rcases he : w.store.rounds refs.ext with _ | e <;> simp only [he] at h
  · cases h
  rw [guard_ok] at h
  obtain ⟨hh, h⟩ := h
  split at h
  · cases h
  · next ch' hu =>
    split at h
    · cases h
    · next s' hs =>
      cases h
      obtain ⟨e', he', rfl⟩ := storeEmpty_ok hs
      cases Option.some.inj (he'.symm.trans he)
      obtain ⟨hne, hle, rfl⟩ := updateExternal_ok hu
      exact ⟨e, rfl, Decidable.not_not.mp hh, by simpa [badRec_some he] using hbad, hne, hle, rfl⟩

theorem setChain_self (w : World) (cid : Nat) (c : Chain) (s : Store) :
    (setChain w cid c s).chains cid = c := if_pos rfl

theorem setChain_ne (w : World) {cid c' : Nat} (c : Chain) (s : Store) (h : c' ≠ cid) :
    (setChain w cid c s).chains c' = w.chains c' := if_neg h

/-- **new_round_commits_prev.**  A successful round start: the presented self reference is the
    hash `asFinal()` computed for the closing round; the chain's new final round *is* that
    closed round (its number is the old cache number); the new cache round has exactly the next
    number and stores that self reference; durably, the closed round is stored under its hash
    with the old number, and the head record carries the new number and the same references.
    (No hypothesis: this part holds for every reference.  The closed round's record is claimed
    for `fh ≠ cid` only: the head record is written last, under the node id, and would overwrite
    a closed round whose hash happened to be that id.) -/
theorem new_round_commits_prev {w w' : World} {cid : Nat} {refs : Refs} {fin oracle d : Bool}
    (h : startNewRound w cid refs fin oracle = .ok (w', d)) :
    ∃ fh fs, (w.chains cid).closing = some (fh, fs) ∧ refs.self = fh ∧
      (w'.chains cid).finalHash = fh ∧ (w'.chains cid).finalNumber = (w.chains cid).cacheNumber ∧
      (w'.chains cid).cacheNumber = (w.chains cid).cacheNumber + 1 ∧
      (w'.chains cid).cacheRefs.self = fh ∧ (w'.chains cid).closing = none ∧
      (∃ hd, w'.store.rounds cid = some hd ∧ hd.number = (w.chains cid).cacheNumber + 1 ∧
          hd.refs = some (w'.chains cid).cacheRefs) ∧
      (fh ≠ cid → ∃ fr, w'.store.rounds fh = some fr ∧ fr.hash = fh ∧
          fr.number = (w.chains cid).cacheNumber) := by
  obtain ⟨fh, fs, ch', s', hcl, hself, hs, rfl, -⟩ := start_ok h
  obtain ⟨self, e, -, -, -, hnum, -, -, -, rfl⟩ := storeStart_ok (Nat.succ_ne_zero _) hs
  have hrs : (dummyRefs (w.chains cid) refs d).self = fh := by cases d <;> exact hself
  rw [setChain_self]
  exact ⟨fh, fs, hcl, hself, rfl, rfl, rfl, hrs, rfl, ⟨_, if_pos rfl, rfl, rfl⟩,
    fun hne => ⟨_, (if_neg hne).trans (if_pos hrs.symm), hrs, Nat.succ.inj hnum⟩⟩

/-- what the code should (but does not) check of a presented transition: it acts on a chain,
    and its external reference is not the id of a chain -/
def OpOk (ids : List Nat) (op : Op) : Prop :=
  op.cid ∈ ids ∧ ∀ x, op.ext = some x → x ∉ ids

/-- `mirror`: the in-memory links of every chain equal its durable links.
    `extrec`: the external reference of every cache round is not a chain id, names a stored
    record, and the link towards that record's node equals its number. -/
structure Inv (ids : List Nat) (w : World) : Prop where
  mirror : ∀ c ∈ ids, ∀ x, (w.chains c).links x = w.store.links c x
  extrec : ∀ c ∈ ids, (w.chains c).cacheRefs.ext ∉ ids ∧
    ∃ e, w.store.rounds (w.chains c).cacheRefs.ext = some e ∧ e.hash ≠ 0 ∧
      (w.chains c).links e.node = e.number

/-- The shape every successful transition has.  Chain `cid` takes the stored record `e`, found
    under a non-chain key `x`, as its external reference and records the link to it (not lower
    than before) both in memory and durably; the other links, and every existing record outside
    `ids`, stay.  Such a step keeps the invariant and lowers no durable link. -/
theorem inv_link_step {ids : List Nat} {w : World} {cid x : Nat} {e : RoundRec} {c' : Chain}
    {s' : Store} (hinv : Inv ids w) (hc : cid ∈ ids) (hx : x ∉ ids)
    (he : w.store.rounds x = some e) (hz : e.hash ≠ 0)
    (hle : (w.chains cid).links e.node ≤ e.number) (hcx : c'.cacheRefs.ext = x)
    (hcl : ∀ y, c'.links y = if y = e.node then e.number else (w.chains cid).links y)
    (hsl : ∀ a b, s'.links a b = if a = cid ∧ b = e.node then e.number else w.store.links a b)
    (hsr : ∀ k r, k ∉ ids → w.store.rounds k = some r → s'.rounds k = some r) :
    Inv ids (setChain w cid c' s') ∧ ∀ a b, w.store.links a b ≤ s'.links a b := by
  refine ⟨⟨fun c hcm y => ?_, fun c hcm => ?_⟩, fun a b => ?_⟩
  · show ((setChain w cid c' s').chains c).links y = s'.links c y
    by_cases hcc : c = cid
    · rw [hcc, setChain_self, hcl, hsl, hinv.mirror cid hc]
      simp only [true_and]
    · rw [setChain_ne _ _ _ hcc, hsl, if_neg fun h => hcc h.1]
      exact hinv.mirror c hcm y
  · show _ ∧ ∃ e, s'.rounds _ = some e ∧ _
    by_cases hcc : c = cid
    · rw [hcc, setChain_self, hcx]
      exact ⟨hx, e, hsr x e hx he, hz, (hcl _).trans (if_pos rfl)⟩
    · rw [setChain_ne _ _ _ hcc]
      obtain ⟨hce, e1, he1, h1⟩ := hinv.extrec c hcm
      exact ⟨hce, e1, hsr _ e1 hce he1, h1⟩
  · rw [hsl]
    split
    · next h => rw [h.1, h.2, ← hinv.mirror cid hc]; exact hle
    · exact Nat.le_refl _

theorem start_step {ids : List Nat} {w w' : World} {cid : Nat} {refs : Refs} {fin oracle d : Bool}
    (hinv : Inv ids w) (hc : cid ∈ ids) (hx : refs.ext ∉ ids)
    (h : startNewRound w cid refs fin oracle = .ok (w', d)) :
    (Inv ids w' ∧ ∀ a b, w.store.links a b ≤ w'.store.links a b) ∧
      (w'.chains cid).cacheRefs = dummyRefs (w.chains cid) refs d ∧
      (dummyRefs (w.chains cid) refs d).ext ∉ ids ∧
      (d = false → ∃ e, w.store.rounds refs.ext = some e ∧ e.hash = refs.ext ∧ e.node ≠ cid) := by
  obtain ⟨fh, fs, ch', s', -, -, hs, rfl, hcases⟩ := start_ok h
  obtain ⟨self, e, -, he, hz, -, -, hsn, -, hs'⟩ := storeStart_ok (Nat.succ_ne_zero _) hs
  -- the records written are the head record (a chain id) and the closed round (not stored before)
  have hsr : ∀ k r, k ∉ ids → w.store.rounds k = some r → s'.rounds k = some r :=
    fun k r hk hr => hs' ▸ (if_neg fun h : k = cid => hk (h ▸ hc)).trans
      ((if_neg fun h : k = _ => nomatch hr.symm.trans (h ▸ hsn : w.store.rounds k = none)).trans hr)
  subst hs'
  rw [setChain_self]
  rcases hcases with ⟨rfl, -, -, rfl⟩ | ⟨rfl, e', he', hh, hu⟩
  · -- dummy branch: the previous external reference is kept, its link is written again
    obtain ⟨hcext, e0, he0, -, hl0⟩ := hinv.extrec cid hc
    cases Option.some.inj (he0.symm.trans he)
    exact ⟨inv_link_step hinv hc hcext he hz (Nat.le_of_eq hl0) rfl
      (fun y => (ite_eq_right_iff.mpr fun h => h ▸ hl0.symm).symm) (fun _ _ => rfl) hsr,
      rfl, hcext, nofun⟩
  · cases Option.some.inj (he'.symm.trans he)
    obtain ⟨hne, hle, rfl⟩ := updateExternal_ok hu
    exact ⟨inv_link_step hinv hc hx he hz hle rfl (fun _ => rfl) (fun _ _ => rfl) hsr,
      rfl, hx, fun _ => ⟨e, he, hh, Ne.symm hne⟩⟩

theorem empty_step {ids : List Nat} {w w' : World} {cid : Nat} {refs : Refs} {strict oracle : Bool}
    (hinv : Inv ids w) (hc : cid ∈ ids) (hx : refs.ext ∉ ids)
    (h : updateEmptyHead w cid refs strict oracle = .ok w') :
    Inv ids w' ∧ (∀ a b, w.store.links a b ≤ w'.store.links a b) := by
  obtain ⟨e, he, -, hz, -, hle, rfl⟩ := empty_ok h
  exact inv_link_step hinv hc hx he hz hle rfl (fun _ => rfl) (fun _ _ => rfl)
    fun k r hk hr => (if_neg fun h : k = cid => hk (h ▸ hc)).trans hr

/-- one step of a history keeps the invariant and lowers no durable link -/
theorem apply_step {ids : List Nat} {w : World} {op : Op} (hinv : Inv ids w) (hop : OpOk ids op) :
    Inv ids (apply w op) ∧ ∀ a b, w.store.links a b ≤ (apply w op).store.links a b := by
  cases op with
  | snap c h st =>
    have key : ∀ c', ((addSnapshots w c h st).chains c').links = (w.chains c').links ∧
        ((addSnapshots w c h st).chains c').cacheRefs = (w.chains c').cacheRefs := fun c' => by
      by_cases hcc : c' = c
      · rw [hcc, addSnapshots, setChain_self]; exact ⟨rfl, rfl⟩
      · rw [addSnapshots, setChain_ne _ _ _ hcc]; exact ⟨rfl, rfl⟩
    refine ⟨⟨fun c' hc' x => (congrFun (key c').1 x).trans (hinv.mirror c' hc' x),
      fun c' hc' => ?_⟩, fun a b => Nat.le_refl _⟩
    have := hinv.extrec c' hc'
    rw [← (key c').1, ← (key c').2] at this
    exact this
  | start c r f o =>
    simp only [apply]
    split
    · next w' d h => exact (start_step hinv hop.1 (hop.2 r.ext rfl) h).1
    · exact ⟨hinv, fun a b => Nat.le_refl _⟩
  | empty c r st o =>
    simp only [apply]
    split
    · next w' h => exact empty_step hinv hop.1 (hop.2 r.ext rfl) h
    · exact ⟨hinv, fun a b => Nat.le_refl _⟩

theorem applyAll_step {ids : List Nat} :
    ∀ (ops : List Op) {w : World}, Inv ids w → (∀ op ∈ ops, OpOk ids op) →
      Inv ids (applyAll w ops) ∧ ∀ a b, w.store.links a b ≤ (applyAll w ops).store.links a b
  | [], _, hinv, _ => ⟨hinv, fun _ _ => Nat.le_refl _⟩
  | _ :: t, _, hinv, hops =>
    have ⟨hop, ht⟩ := List.forall_mem_cons.mp hops
    have ⟨h1, h2⟩ := apply_step hinv hop
    have ⟨h3, h4⟩ := applyAll_step t h1 ht
    ⟨h3, fun a b => Nat.le_trans (h2 a b) (h4 a b)⟩

theorem applyAll_append (w : World) (ops₁ ops₂ : List Op) :
    applyAll w (ops₁ ++ ops₂) = applyAll (applyAll w ops₁) ops₂ := List.foldl_append

/-- **link_monotone (partial).**  Full statement (false of the code, see the counterexamples
    below): for every history of transitions on any number of chains, starting from a state whose
    in-memory links mirror the durable ones, every LINK[a→b] is non-decreasing.
    Proved: the same for histories in which no presented external reference is a chain id. -/
theorem link_monotone_partial {ids : List Nat} {w : World} (ops : List Op) (hinv : Inv ids w)
    (hops : ∀ op ∈ ops, OpOk ids op) (a b : Nat) :
    w.store.links a b ≤ (applyAll w ops).store.links a b :=
  (applyAll_step ops hinv hops).2 a b

/-- the same along the whole history: any later state dominates any earlier one -/
theorem link_monotone_prefix_partial {ids : List Nat} {w : World} (ops₁ ops₂ : List Op)
    (hinv : Inv ids w) (hops : ∀ op ∈ ops₁ ++ ops₂, OpOk ids op) (a b : Nat) :
    (applyAll w ops₁).store.links a b ≤ (applyAll w (ops₁ ++ ops₂)).store.links a b := by
  have ⟨h1, h2⟩ := List.forall_mem_append.mp hops
  rw [applyAll_append]
  exact link_monotone_partial ops₂ (applyAll_step ops₁ hinv h1).1 h2 a b

/-- **mirror_equal (partial).**  After every such history the in-memory links of every chain
    equal the durable links (for histories presenting chain ids: `mirror_diverges_counterexample`) … -/
theorem mirror_equal_partial {ids : List Nat} {w : World} (ops : List Op) (hinv : Inv ids w)
    (hops : ∀ op ∈ ops, OpOk ids op) :
    ∀ c ∈ ids, ∀ x, ((applyAll w ops).chains c).links x = (applyAll w ops).store.links c x :=
  (applyAll_step ops hinv hops).1.mirror

theorem ite_ne {α : Type} {c : Prop} [Decidable c] {a b x : α} (ha : a ≠ x) (hb : b ≠ x) :
    (if c then a else b) ≠ x := by
  split <;> assumption

theorem updateExternal_ne_panic {s : Store} {cid : Nat} {ch : Chain} {e : RoundRec}
    (hm : s.links cid e.node = ch.links e.node) (strict oracle : Bool) :
    updateExternal s cid ch e strict oracle ≠ .error .panic := by
  unfold updateExternal
  rw [if_neg (not_not_intro hm)]
  exact ite_ne nofun (ite_ne nofun (ite_ne nofun nofun))

/-- … so the Go guard `panic("should never be here …")` inside `updateExternal` is unreachable
    after such a history (and reached after the one of `mirror_diverges_counterexample`). -/
theorem mirror_guard_unreachable_partial {ids : List Nat} {w : World} (ops : List Op)
    (hinv : Inv ids w) (hops : ∀ op ∈ ops, OpOk ids op) (c : Nat) (hc : c ∈ ids)
    (e : RoundRec) (strict oracle : Bool) :
    updateExternal (applyAll w ops).store c ((applyAll w ops).chains c) e strict oracle
      ≠ .error .panic :=
  updateExternal_ne_panic (mirror_equal_partial ops hinv hops c hc e.node).symm strict oracle

/-- **external_known_foreign (partial).**  After a successful transition that presented a
    non-chain-id reference, the stored external reference of the cache round names a stored
    ROUND record, of a different node, stored under its own hash (a closed round: head records
    are the ones stored under chain ids), and the link towards that node equals its number.  In
    the dummy branch the previous reference — with the same guarantees — is kept.
    With a chain id as reference: `external_names_live_round_counterexample`. -/
theorem external_known_foreign_partial {ids : List Nat} {w w' : World} {cid : Nat} {refs : Refs}
    {fin oracle d : Bool} (hinv : Inv ids w) (hc : cid ∈ ids) (hx : refs.ext ∉ ids)
    (h : startNewRound w cid refs fin oracle = .ok (w', d)) :
    (w'.chains cid).cacheRefs.ext ∉ ids ∧
      (∃ e, w'.store.rounds (w'.chains cid).cacheRefs.ext = some e ∧ e.hash ≠ 0 ∧
        w'.store.links cid e.node = e.number) ∧
      (d = false → (w'.chains cid).cacheRefs.ext = refs.ext ∧
        ∃ e, w.store.rounds refs.ext = some e ∧ e.hash = refs.ext ∧ e.node ≠ cid) ∧
      (d = true → (w'.chains cid).cacheRefs.ext = (w.chains cid).cacheRefs.ext) := by
  obtain ⟨⟨hinv', -⟩, hrefs, hnot, hfor⟩ := start_step hinv hc hx h
  obtain ⟨-, e, he, hz, hl⟩ := hinv'.extrec cid hc
  refine ⟨hrefs ▸ hnot, ⟨e, he, hz, hinv'.mirror cid hc _ ▸ hl⟩, ?_, ?_⟩ <;> rintro rfl
  · exact ⟨hrefs ▸ rfl, hfor rfl⟩
  · exact hrefs ▸ rfl

/-- the same for an empty-head reference update (the three hypotheses are not needed for it) -/
theorem external_known_foreign_empty_partial {ids : List Nat} {w w' : World} {cid : Nat} {refs : Refs}
    {strict oracle : Bool} (_hinv : Inv ids w) (_hc : cid ∈ ids) (_hx : refs.ext ∉ ids)
    (h : updateEmptyHead w cid refs strict oracle = .ok w') :
    (w'.chains cid).cacheRefs = refs ∧
      ∃ e, w.store.rounds refs.ext = some e ∧ e.hash = refs.ext ∧ e.node ≠ cid ∧
        w'.store.links cid e.node = e.number := by
  obtain ⟨e, he, hh, -, hne, -, rfl⟩ := empty_ok h
  rw [setChain_self]
  exact ⟨rfl, e, he, hh, Ne.symm hne, if_pos ⟨rfl, rfl⟩⟩

/-- **rejected_unchanged.**  A rejected transition (and a panicking one: the process dies and
    restarts from the store, whose transaction was discarded) leaves chain state and store as
    they were; so does every transition the model rejects in a history. -/
theorem rejected_unchanged (w : World) (op : Op) :
    (match op with
      | .snap _ _ _ => False
      | .start c r f o => ∃ e, startNewRound w c r f o = .error e
      | .empty c r s o => ∃ e, updateEmptyHead w c r s o = .error e) → apply w op = w := by
  intro h
  cases op with
  | snap => exact absurd h id
  | start c r f o => obtain ⟨e, he⟩ := h; simp only [apply, he]
  | empty c r s o => obtain ⟨e, he⟩ := h; simp only [apply, he]

/-- a back link, a self reference, or an unknown external on the strict path is rejected -/
theorem stale_self_unknown_rejected {w : World} {cid : Nat} {refs : Refs} {fin oracle : Bool}
    {fh fs : Nat} (hcl : (w.chains cid).closing = some (fh, fs)) (hself : refs.self = fh)
    (hgood : badRec w.store refs.ext = false) :
    (w.store.rounds refs.ext = none → fin = false →
        startNewRound w cid refs fin oracle = .error .err) ∧
    (∀ e, w.store.rounds refs.ext = some e → e.hash = refs.ext →
        (e.node = cid ∨ e.number < (w.chains cid).links e.node) →
        startNewRound w cid refs fin oracle = .error .err) := by
  constructor
  · intro hnone hfin
    unfold startNewRound
    simp [hcl, hself, hgood, hnone, hfin]
  · intro e he hh hbad
    unfold startNewRound
    simp only [hcl, hself, hgood, he, hh]
    unfold updateExternal
    rcases hbad with hb | hb
    · simp [hb]
    · by_cases hc : cid = e.node
      · simp [hc]
      · simp [hc, hb]

section Counterexample

def rec0 (h node : Nat) : RoundRec := { hash := h, node := node, number := 0, ts := 5, refs := none }

/-- two chains 1 and 2 right after genesis-like initialisation; closed rounds 100 (chain 1,
    number 0) and 200 (chain 2, number 0); chain 1's live round 1 closes to hash 101 -/
def w0 : World :=
  { store :=
      { rounds := fun k =>
          if k = 1 then some (headRec 1 1 ⟨100, 200⟩)
          else if k = 2 then some (headRec 2 1 ⟨200, 100⟩)
          else if k = 100 then some (rec0 100 1)
          else if k = 200 then some (rec0 200 2)
          else none,
        links := fun _ _ => 0 },
    chains := fun c =>
      if c = 1 then { finalNumber := 0, finalHash := 100, finalStart := 5, cacheNumber := 1,
                      cacheRefs := ⟨100, 200⟩, closing := none, links := fun _ => 0 }
      else { finalNumber := 0, finalHash := 200, finalStart := 5, cacheNumber := 1,
             cacheRefs := ⟨200, 100⟩, closing := none, links := fun _ => 0 } }

/-- the initial world satisfies the invariant (so the theorems above are not vacuous) -/
theorem w0_inv : Inv [1, 2] w0 := by
  have two : ∀ c ∈ [1, 2], c = 1 ∨ c = 2 := fun c hc => by simpa using hc
  refine ⟨fun c hc x => ?_, fun c hc => ?_⟩
  · rcases two c hc with rfl | rfl <;> rfl
  · rcases two c hc with rfl | rfl
    · exact ⟨by decide, rec0 200 2, rfl, by decide, rfl⟩
    · exact ⟨by decide, rec0 100 1, rfl, by decide, rfl⟩

/-- observable outcome of a round start: 0 = started, 1 = started through the dummy branch,
    2 = rejected, 3 = panic -/
def outcomeOf : Except Fail (World × Bool) → Nat
  | .ok (_, false) => 0
  | .ok (_, true) => 1
  | .error .err => 2
  | .error .panic => 3

/-- chain 1 closes its round (hash 101) and presents **chain 2's node id** as external
    reference on the finalized path -/
def wBad : World := applyAll w0 [.snap 1 101 7, .start 1 ⟨101, 2⟩ true true]

/-- **Counterexample to `external_known_foreign`.**  The transition is accepted; the stored
    external reference of chain 1 is the id of chain 2, i.e. the record it names is chain 2's
    *live* head round (number 1, no closed round 1 of chain 2 exists), and LINK[1→2] = 1. -/
theorem external_names_live_round_counterexample :
    outcomeOf (startNewRound (addSnapshots w0 1 101 7) 1 ⟨101, 2⟩ true true) = 0 ∧
      (wBad.chains 1).cacheRefs.ext = 2 ∧
      (wBad.store.rounds 2).map (fun r => (r.hash, r.node, r.number)) = some (2, 2, 1) ∧
      (wBad.chains 2).cacheNumber = 1 ∧ (wBad.chains 2).finalNumber = 0 ∧
      wBad.store.links 1 2 = 1 := by
  decide

/-- … then chain 2 closes two rounds (201, 202, referencing chain 1's closed round 100 and 101),
    and chain 1 closes its round again (hash 102) through the dummy branch (unknown external 999) -/
def wDiverged : World :=
  applyAll wBad [.snap 2 201 8, .start 2 ⟨201, 100⟩ true true, .snap 2 202 9,
    .start 2 ⟨202, 101⟩ true true, .snap 1 102 10, .start 1 ⟨102, 999⟩ true true]

/-- **Counterexample to `mirror_equal`.**  After that history chain 1's in-memory link to chain 2
    is 1 while the durable LINK[1→2] is 3, and the next (perfectly valid) reference of chain 1 to
    chain 2's closed round 202 hits the `should never be here` panic. -/
theorem mirror_diverges_counterexample :
    (wDiverged.chains 1).links 2 = 1 ∧ wDiverged.store.links 1 2 = 3 ∧
      outcomeOf (startNewRound (addSnapshots wDiverged 1 103 11) 1 ⟨103, 202⟩ true true) = 3 := by
  decide

-- non-vacuity: ordinary transitions (closed-round references only) are accepted by the model
-- and satisfy the hypotheses of the partial theorems
example : outcomeOf (startNewRound (addSnapshots w0 1 101 7) 1 ⟨101, 200⟩ false true) = 0 := by decide
example : outcomeOf (startNewRound (addSnapshots w0 1 101 7) 1 ⟨101, 999⟩ true true) = 1 := by decide
example : outcomeOf (startNewRound (addSnapshots w0 1 101 7) 1 ⟨101, 999⟩ false true) = 2 := by decide
example : outcomeOf (startNewRound (addSnapshots w0 1 101 7) 1 ⟨101, 100⟩ true true) = 2 := by decide
example : (applyAll w0 [.empty 1 ⟨100, 200⟩ true true]).store.links 1 2 = 0 := by decide

example : OpOk [1, 2] (.start 1 ⟨101, 200⟩ false true) := by
  simp [OpOk, Op.cid, Op.ext]

end Counterexample

/-- the regenerated call skeleton of the modelled functions is the one the model assumes -/
theorem facts_ok : True ∧ Mixin.Facts.ExpectedC20.has Mixin.Facts.Gen.storage_startNewRound_calls
    ["readRound*2", "writeLink*1", "writeRound*2"] = true :=
  ⟨trivial, by decide⟩

end Mixin.C20
