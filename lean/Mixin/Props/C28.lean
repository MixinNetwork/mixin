import Mixin.Model.ConsensusChain
import Mixin.Proofs.Basics
import Mixin.Model.ConsensusChainCodes
import Mixin.Facts.ExpectedC28
import Mixin.Model.ConsensusEffectsCodes
/-!
# C28 — consensus operations form a serialized single-transaction chain

Theorems about `Mixin.Model.ConsensusChain` (model of `IsSnapshotBatchable`,
`validateKernelSnapshot`, `validateConsensusTransactionReferences`,
`WriteConsensusSnapshotWithHack`, `writeConsensusSnapshot`, `readLastConsensusSnapshot`).
The type codes are a parameter `c : Codes`; the only relation used is `CodesOK c` (no
consensus class is batchable), proved for the regenerated constants in
`Facts/ExpectedC28.lean` (`realCodes_ok`).
-/
namespace Mixin.C28
open Mixin.ConsensusChain

def CodesOK (c : Codes) : Prop := ∀ t, isConsensusType c t = true → isBatchable c t = false

theorem realCodes_ok : CodesOK realCodes := Mixin.Facts.ExpectedC28.realCodes_ok

/-- the validator let the snapshot through (possibly pending the per-type validator) -/
def Passed (k : KDecision) : Prop := k = .accept ∨ k = .typeCheck

theorem not_passed_reject : ¬ Passed .reject := by unfold Passed; decide
theorem not_passed_panic : ¬ Passed .panic := by unfold Passed; decide

theorem isBatchable_iff (c : Codes) (t : Nat) :
    isBatchable c t = true ↔
      t = c.tScript ∨ t = c.tDeposit ∨ t = c.tWithdrawalSubmit ∨ t = c.tWithdrawalClaim := by
  simp only [isBatchable, Bool.or_eq_true, beq_iff_eq, or_assoc]

theorem kernel_multi (c : Codes) (e : Env) (st : Store) (s : Snap) (self : Bool) (round : Nat)
    (found : List Tx) (fin : Bool) (hlen : s.txs.length > 1) :
    validateKernel c e st s self round found fin =
      if found.all (fun t => isBatchable c t.ttype) then .accept else .reject :=
  if_pos hlen

/-- **multi_tx_only_batchable.** A snapshot with more than one transaction that passes the
    kernel validator: every transaction body found so far is script / deposit / withdrawal
    submit / withdrawal claim. -/
theorem multi_tx_only_batchable (c : Codes) (e : Env) (st : Store) (s : Snap) (self : Bool)
    (round : Nat) (found : List Tx) (fin : Bool) (hlen : s.txs.length > 1)
    (hp : Passed (validateKernel c e st s self round found fin)) :
    ∀ t ∈ found, t.ttype = c.tScript ∨ t.ttype = c.tDeposit ∨
      t.ttype = c.tWithdrawalSubmit ∨ t.ttype = c.tWithdrawalClaim := by
  intro t ht
  rw [kernel_multi c e st s self round found fin hlen] at hp
  by_cases hall : found.all (fun t => isBatchable c t.ttype) = true
  · exact (isBatchable_iff c t.ttype).mp (List.all_eq_true.mp hall t ht)
  · rw [if_neg hall] at hp; exact absurd hp not_passed_reject

/-- … and when all bodies have been found, every transaction of the snapshot is of a
    batchable class. -/
theorem multi_tx_only_batchable_all (c : Codes) (e : Env) (st : Store) (s : Snap) (self : Bool)
    (round : Nat) (found : List Tx) (fin : Bool) (hlen : s.txs.length > 1)
    (hfound : ∀ h ∈ s.txs, ∃ t ∈ found, t.hash = h)
    (hp : Passed (validateKernel c e st s self round found fin)) :
    ∀ h ∈ s.txs, ∃ t ∈ found, t.hash = h ∧ isBatchable c t.ttype = true := by
  intro h hh
  obtain ⟨t, ht, hth⟩ := hfound h hh
  exact ⟨t, ht, hth, (isBatchable_iff c t.ttype).mpr
    (multi_tx_only_batchable c e st s self round found fin hlen hp t ht)⟩

example : Passed (validateKernel realCodes ⟨false, 0, none⟩ ⟨[], []⟩ ⟨1, 5, [10, 11]⟩ true 1
    [⟨10, 0, false, some 0, false, []⟩, ⟨11, 2, false, some 0, false, []⟩] false) :=
  Or.inl (by decide)

/-- **consensus_alone.** If a snapshot passes while a mint, membership or custodian
    transaction is among its found bodies, the snapshot holds exactly one transaction. -/
theorem consensus_alone (c : Codes) (hc : CodesOK c) (e : Env) (st : Store) (s : Snap)
    (self : Bool) (round : Nat) (found : List Tx) (fin : Bool) (t : Tx) (ht : t ∈ found)
    (hcons : isConsensusType c t.ttype = true)
    (hp : Passed (validateKernel c e st s self round found fin)) :
    s.txs.length ≤ 1 :=
  Nat.le_of_not_gt fun hlen => by
    have hb := (isBatchable_iff c t.ttype).mpr
      (multi_tx_only_batchable c e st s self round found fin hlen hp t ht)
    rw [hc t.ttype hcons] at hb; cases hb

example : validateKernel realCodes ⟨false, 0, none⟩ ⟨[], []⟩ ⟨1, 5, [10, 11]⟩ true 1
    [⟨10, 0, false, some 0, false, []⟩, ⟨11, 6, false, some 163, false, [7]⟩] false = .reject := by decide

/-- what `validateConsensusTransactionReferences` established when it returned nil for a
    consensus-class transaction -/
def LinksPrev (st : Store) (hack : Option Snap) (sts : Nat) (tx : Tx) : Prop :=
  ∃ last b ltx, readLastWithHack st hack = some (last, b) ∧ last.txs = [ltx] ∧
    (ltx = tx.hash ∨ (tx.refs.head? = some ltx ∧ last.ts < sts))

/-- **consensus_links_prev.** An accepted consensus operation references (as its first
    reference) the sole transaction of the last recorded consensus snapshot and its snapshot
    timestamp is strictly later — or it is that last transaction again (a replay). -/
theorem consensus_links_prev (c : Codes) (st : Store) (hack : Option Snap) (sts : Nat) (tx : Tx)
    (hcons : isConsensusType c tx.ttype = true)
    (hacc : validateRefs c st hack sts tx = .accept) : LinksPrev st hack sts tx := by
  rw [validateRefs, if_neg (by rw [hcons]; decide)] at hacc
  obtain ⟨_, hacc⟩ := of_ite_eq hacc (by decide)
  match hr : readLastWithHack st hack with
  | none => rw [hr] at hacc; cases hacc
  | some (last, b) =>
    simp only [hr] at hacc
    refine ⟨last, b, ?_⟩
    match htx : last.txs with
    | [] => rw [htx] at hacc; cases hacc
    | _ :: _ :: _ => rw [htx] at hacc; cases hacc
    | [ltx] =>
      refine ⟨ltx, hr, rfl, ?_⟩
      simp only [htx, List.length_singleton, gt_iff_lt, Nat.lt_irrefl, if_false, List.head?_cons,
        beq_iff_eq, bne_iff_ne, ne_eq] at hacc
      by_cases h1 : ltx = tx.hash
      · exact .inl h1
      rw [if_neg h1] at hacc
      obtain ⟨h2, hacc⟩ := of_ite_eq hacc (by decide)
      obtain ⟨h3, _⟩ := of_ite_eq hacc (by decide)
      exact .inr ⟨Classical.not_not.mp h2, Nat.lt_of_not_le h3⟩

/-- the kernel validator applies the reference rule to every single-transaction snapshot that
    is not inside the hard-coded mainnet pre-fork exemption -/
theorem kernel_single_refs (c : Codes) (e : Env) (st : Store) (s : Snap) (self : Bool)
    (round : Nat) (tx : Tx) (fin : Bool) (hs : s.txs = [tx.hash])
    (hfork : ¬ (fin = true ∧ e.mainnet = true ∧ s.ts < e.forkAt))
    (hp : Passed (validateKernel c e st s self round [tx] fin)) :
    validateRefs c st e.hack s.ts tx = .accept := by
  have hf : ¬ (fin && e.mainnet && decide (s.ts < e.forkAt)) = true := by
    simpa only [Bool.and_eq_true, decide_eq_true_eq, and_assoc] using hfork
  have hl : ¬ [tx.hash].length > 1 := Nat.lt_irrefl 1
  rw [validateKernel, hs, if_neg hl, if_neg hf] at hp
  simp only [List.head?_cons, List.find?_cons, beq_self_eq_true] at hp
  by_cases h1 : (!self && round == 0 && tx.ttype != c.tNodeAccept) = true
  · rw [if_pos h1] at hp; exact absurd hp not_passed_reject
  rw [if_neg h1] at hp
  cases hr : validateRefs c st e.hack s.ts tx <;> rw [hr] at hp
  case reject => exact absurd hp not_passed_reject
  case panic => exact absurd hp not_passed_panic

theorem kernel_consensus_links_prev (c : Codes) (e : Env) (st : Store) (s : Snap) (self : Bool)
    (round : Nat) (tx : Tx) (fin : Bool) (hs : s.txs = [tx.hash])
    (hfork : ¬ (fin = true ∧ e.mainnet = true ∧ s.ts < e.forkAt))
    (hcons : isConsensusType c tx.ttype = true)
    (hp : Passed (validateKernel c e st s self round [tx] fin)) :
    LinksPrev st e.hack s.ts tx :=
  consensus_links_prev c st e.hack s.ts tx hcons
    (kernel_single_refs c e st s self round tx fin hs hfork hp)

theorem findBody_addBody_of_some (st : Store) (s : Snap) (h : Nat) (b : Snap)
    (hb : findBody st.bodies h = some b) : findBody (addBody st s).bodies h = some b := by
  unfold addBody; split
  · exact hb
  · exact List.find?_append.trans (by rw [show List.find? _ st.bodies = some b from hb]; rfl)

theorem addBody_recs (st : Store) (s : Snap) : (addBody st s).recs = st.recs := by
  unfold addBody; split <;> rfl

theorem readLast_addBody (st : Store) (s l : Snap) (h : readLast st = .some l) :
    readLast (addBody st s) = .some l := by
  unfold readLast at h ⊢
  rw [addBody_recs]
  cases hr : (st.recs.filter seekable).getLast? with
  | none => rw [hr] at h; cases h
  | some r =>
    simp only [hr] at h ⊢
    cases hb : findBody st.bodies r.snap with
    | none => rw [hb] at h; cases h
    | some b => rw [findBody_addBody_of_some st s r.snap b hb]; rwa [hb] at h

theorem readLastWithHack_none (st : Store) (l : Snap) (b : Bool) :
    readLastWithHack st none = some (l, b) ↔ readLast st = .some l ∧ b = false := by
  unfold readLastWithHack
  cases readLast st <;> simp [eq_comm]

/-- transaction shape that `writeConsensusSnapshot` asserts: a sole mint input, or the
    consensus output first. Guaranteed by transaction validation (one output for node and
    custodian transactions, one input for a mint), which is outside this model; the harness
    runs the writer on the excluded shapes and reports the panic as an observation. -/
def ShapeOK (c : Codes) (tx : Tx) : Prop := shapeOk c tx = true

theorem shapeOK_iff (c : Codes) (tx : Tx) :
    ShapeOK c tx ↔ tx.mintSole = true ∨ ∃ o, tx.out0 = some o ∧ isConsensusOutput c o = true := by
  unfold ShapeOK shapeOk
  cases tx.out0 <;> simp

/-- `WriteConsensusSnapshotWithHack` on a store whose last consensus snapshot is `l` with sole
    transaction `ltx`: its assertions are the tests of the reference rule (`hlink`), so it
    succeeds, and this is what it records -/
theorem writeWithHack_linked (c : Codes) (e : Env) (st1 : Store) (snap l : Snap) (tx : Tx) (ltx : Nat)
    (hh : e.hack = none) (hcons : isConsensusType c tx.ttype = true) (hshape : ShapeOK c tx)
    (hs : snap.txs = [tx.hash]) (hrl : readLast st1 = .some l) (htx : l.txs = [ltx])
    (hlink : ltx = tx.hash ∨ (tx.refs.head? = some ltx ∧ l.ts < snap.ts)) :
    writeWithHack c e st1 snap tx = .ok
      (if tx.isGenesis then { st1 with recs := put st1.recs ⟨snap.ts, snap.hash, none⟩ }
      else if ltx = tx.hash then st1
      else { st1 with recs := put (put st1.recs ⟨l.ts, l.hash, some tx.hash⟩) ⟨snap.ts, snap.hash, none⟩ }) := by
  have hr := (readLastWithHack_none st1 l false).mpr ⟨hrl, rfl⟩
  rw [writeWithHack, if_neg (by rw [hcons]; decide), hh, hr]
  simp only [writeConsensus, hs, List.length_singleton, bne_self_eq_false, Bool.false_eq_true, if_false,
    List.head?_cons, show shapeOk c tx = true from hshape, Bool.not_true, hrl, htx, beq_iff_eq, bne_iff_ne,
    ne_eq]
  by_cases hg : tx.isGenesis = true
  · rw [if_pos hg, if_pos hg]
  rw [if_neg hg, if_neg hg]
  by_cases h1 : ltx = tx.hash
  · rw [if_pos h1, if_pos h1]
  obtain h | ⟨h2, h3⟩ := hlink
  · exact absurd h h1
  · rw [if_neg h1, if_neg h1, if_neg (not_not_intro h2), if_neg (Nat.not_le_of_gt h3)]

/-- **write_asserts_unreachable.** On every network without the mainnet fallback: when the
    reference rule accepted a well-shaped consensus operation carried alone by `snap`, then
    `WriteConsensusSnapshotWithHack` (after the snapshot body was written) does not panic. -/
theorem write_asserts_unreachable (c : Codes) (e : Env) (st : Store) (snap : Snap) (tx : Tx)
    (hh : e.hack = none) (hcons : isConsensusType c tx.ttype = true) (hshape : ShapeOK c tx)
    (hs : snap.txs = [tx.hash])
    (hacc : validateRefs c st none snap.ts tx = .accept) :
    writeWithHack c e (addBody st snap) snap tx ≠ .panic := by
  obtain ⟨last, b, ltx, hr, htx, hlink⟩ := consensus_links_prev c st none snap.ts tx hcons hacc
  have hrl := readLast_addBody st snap last ((readLastWithHack_none st last b).mp hr).1
  rw [writeWithHack_linked c e (addBody st snap) snap last tx ltx hh hcons hshape hs hrl htx hlink]
  exact WOutcome.noConfusion

example : writeWithHack realCodes ⟨false, 0, none⟩
    (addBody ⟨[⟨100, 5, [7]⟩], [⟨5, 100, none⟩]⟩ ⟨101, 9, [8]⟩) ⟨101, 9, [8]⟩
    ⟨8, 6, false, some 163, false, [7]⟩ =
    .ok ⟨[⟨100, 5, [7]⟩, ⟨101, 9, [8]⟩], [⟨5, 100, some 8⟩, ⟨9, 101, none⟩]⟩ := by decide

/- outside the shape hypothesis the assertion does fire (node output second) -/
example : writeWithHack realCodes ⟨false, 0, none⟩
    (addBody ⟨[⟨100, 5, [7]⟩], [⟨5, 100, none⟩]⟩ ⟨101, 9, [8]⟩) ⟨101, 9, [8]⟩
    ⟨8, 6, false, some 0, false, [7]⟩ = .panic := by decide

/-- the `CONSENSUSSNAPSHOT` records of a list of consensus snapshots: every record holds the
    transaction of the next snapshot, the last record is open -/
def mkRecs : List Snap → List CRec
  | [] => []
  | [s] => [⟨s.ts, s.hash, none⟩]
  | s1 :: s2 :: rest => ⟨s1.ts, s1.hash, s2.txs.head?⟩ :: mkRecs (s2 :: rest)

/-- the store records exactly the chain `es`: one list, timestamps strictly increasing, every
    snapshot readable and carrying one transaction -/
structure Chain (st : Store) (es : List Snap) : Prop where
  ne : es ≠ []
  recs : st.recs = mkRecs es
  sorted : es.Pairwise (fun a b => a.ts < b.ts)
  body : ∀ s ∈ es, findBody st.bodies s.hash = some s ∧ (∃ x, s.txs = [x]) ∧ s.ts < maxU64

theorem mkRecs_cons (a : Snap) (rest : List Snap) :
    mkRecs (a :: rest) = ⟨a.ts, a.hash, rest.head?.bind (·.txs.head?)⟩ :: mkRecs rest := by
  cases rest <;> rfl

theorem mkRecs_ts (es : List Snap) : (mkRecs es).map (·.ts) = es.map (·.ts) := by
  induction es with
  | nil => rfl
  | cons a rest ih => rw [mkRecs_cons, List.map_cons, ih]; rfl

theorem mkRecs_getLast (ys : List Snap) (l : Snap) :
    (mkRecs (ys ++ [l])).getLast? = some ⟨l.ts, l.hash, none⟩ := by
  induction ys with
  | nil => rfl
  | cons a ys ih => rw [List.cons_append, mkRecs_cons, List.getLast?_cons, ih]; rfl

theorem readLast_chain (st : Store) (es : List Snap) (hc : Chain st es) :
    ∃ ys l, es = ys ++ [l] ∧ readLast st = .some l := by
  rcases List.eq_nil_or_concat es with h | ⟨ys, l, h⟩
  · exact absurd h hc.ne
  rw [List.concat_eq_append] at h
  refine ⟨ys, l, h, ?_⟩
  have hf : st.recs.filter seekable = st.recs := by
    rw [List.filter_eq_self, hc.recs]
    intro r hr
    have hm : r.ts ∈ es.map (·.ts) := mkRecs_ts es ▸ List.mem_map_of_mem hr
    obtain ⟨x, hx, hts⟩ := List.mem_map.mp hm
    exact Bool.or_eq_true_iff.mpr (.inl (decide_eq_true (hts ▸ (hc.body x hx).2.2)))
  have hb := (hc.body l (h ▸ List.mem_append_right ys (List.mem_singleton_self l))).1
  rw [readLast, hf, hc.recs, h, mkRecs_getLast]
  simp only [hb, bne_self_eq_false, Option.isSome_none, Bool.false_eq_true, if_false]

theorem put_cons_later (x r : CRec) (xs : List CRec) (h : x.ts < r.ts) :
    put (x :: xs) r = x :: put xs r := by
  have h1 : sameKey x r = false :=
    Bool.and_eq_false_imp.mpr fun h' => absurd (beq_iff_eq.mp h') (Nat.ne_of_lt h)
  have h2 : keyLt r x = false := by
    simp only [keyLt, Bool.or_eq_false_iff, decide_eq_false_iff_not, Bool.and_eq_false_imp, beq_iff_eq]
    exact ⟨Nat.lt_asymm h, fun h' => absurd h'.symm (Nat.ne_of_lt h)⟩
  rw [put, if_neg (by rw [h1]; decide), if_neg (by rw [h2]; decide)]

theorem put_close_open (ys : List Snap) (l snap : Snap) (x : Nat)
    (hs : ∀ y ∈ ys, y.ts < l.ts) (hlt : l.ts < snap.ts) (hx : snap.txs.head? = some x) :
    put (put (mkRecs (ys ++ [l])) ⟨l.ts, l.hash, some x⟩) ⟨snap.ts, snap.hash, none⟩ =
      mkRecs (ys ++ [l, snap]) := by
  induction ys with
  | nil =>
    have h1 : put [(⟨l.ts, l.hash, none⟩ : CRec)] ⟨l.ts, l.hash, some x⟩ = [⟨l.ts, l.hash, some x⟩] := by
      simp [put, sameKey]
    show put (put [_] _) _ = [⟨l.ts, l.hash, snap.txs.head?⟩, _]
    rw [h1, put_cons_later _ _ _ hlt, hx]; rfl
  | cons a ys ih =>
    have hal := hs a (List.mem_cons_self ..)
    rw [List.cons_append, List.cons_append, mkRecs_cons, mkRecs_cons, put_cons_later _ _ _ hal,
      put_cons_later _ _ _ (Nat.lt_trans hal hlt), ih fun y hy => hs y (List.mem_cons_of_mem _ hy)]
    cases ys <;> rfl

theorem chain_addBody (st : Store) (es : List Snap) (s : Snap) (hc : Chain st es) :
    Chain (addBody st s) es :=
  ⟨hc.ne, by rw [addBody_recs]; exact hc.recs, hc.sorted,
    fun x hx => ⟨findBody_addBody_of_some st s x.hash x (hc.body x hx).1, (hc.body x hx).2⟩⟩

theorem findBody_addBody_self (st : Store) (s : Snap)
    (h : findBody st.bodies s.hash = none ∨ findBody st.bodies s.hash = some s) :
    findBody (addBody st s).bodies s.hash = some s := by
  rcases h with h | h
  · unfold addBody; simp only [h, Option.isSome_none, Bool.false_eq_true, if_false]
    simp only [findBody] at h ⊢
    rw [List.find?_append, h]; simp
  · exact findBody_addBody_of_some st s s.hash s h

theorem chain_extend (st : Store) (ys : List Snap) (l s : Snap) (x : Nat) (hc : Chain st (ys ++ [l]))
    (hlt : l.ts < s.ts) (hx : s.txs = [x]) (hts : s.ts < maxU64)
    (hb : findBody st.bodies s.hash = some s) :
    Chain { st with recs := put (put st.recs ⟨l.ts, l.hash, some x⟩) ⟨s.ts, s.hash, none⟩ }
      (ys ++ [l] ++ [s]) := by
  have hs := List.pairwise_append.mp hc.sorted
  refine ⟨List.append_ne_nil_of_right_ne_nil _ (List.cons_ne_nil _ _), ?_, ?_, ?_⟩
  · show put (put st.recs _) _ = _
    rw [hc.recs, List.append_assoc]
    exact put_close_open ys l s x (fun y hy => hs.2.2 y hy l (List.mem_singleton_self l)) hlt (by rw [hx]; rfl)
  · refine List.pairwise_append.mpr ⟨hc.sorted, List.pairwise_singleton _ _, fun a ha b hb => ?_⟩
    rw [List.mem_singleton.mp hb]
    exact (pairwise_getLast hc.sorted List.getLast?_concat a ha).elim (· ▸ hlt) (Nat.lt_trans · hlt)
  · intro y hy
    rcases List.mem_append.mp hy with hy | hy
    · exact hc.body y hy
    · rw [List.mem_singleton.mp hy]; exact ⟨hb, ⟨x, hx⟩, hts⟩

theorem finalizeOp_some (c : Codes) (e : Env) (st st' : Store) (s : Snap) (self : Bool) (round : Nat)
    (tx : Tx) (typeOk : Bool) (h : finalizeOp c e st s self round tx typeOk = some st') :
    st' = st ∨ Passed (validateKernel c e st s self round [tx] true) ∧
      if isConsensusType c tx.ttype then writeWithHack c e (addBody st s) s tx = .ok st'
      else st' = addBody st s := by
  unfold finalizeOp at h
  by_cases hst : st' = st
  · exact .inl hst
  have hne : some st ≠ some st' := fun h' => hst (Option.some.inj h').symm
  cases hk : validateKernel c e st s self round [tx] true with
  | panic => rw [hk] at h; cases h
  | reject => rw [hk] at h; exact absurd h hne
  | accept | typeCheck =>
    all_goals
      rw [hk] at h
      obtain ⟨_, h⟩ := of_ite_eq h hne
      refine .inr ⟨by unfold Passed; decide, ?_⟩
      by_cases hcons : isConsensusType c tx.ttype = true
      · rw [if_pos hcons] at h ⊢
        cases hw : writeWithHack c e (addBody st s) s tx with
        | panic => rw [hw] at h; cases h
        | ok st2 => rw [hw] at h; exact congrArg _ (Option.some.inj h)
      · rw [if_neg hcons] at h ⊢; exact (Option.some.inj h).symm

/-- side conditions of one finalized operation: no mainnet fallback and not inside the
    pre-fork exemption (both hard-coded history), the snapshot lists exactly the transaction,
    its hash identifies it among the stored snapshots, its timestamp is below `2^64 - 1`, and
    a consensus-class transaction has the shape transaction validation guarantees -/
structure OpOK (c : Codes) (e : Env) (st : Store) (s : Snap) (tx : Tx) : Prop where
  noHack : e.hack = none
  noFork : ¬ (e.mainnet = true ∧ s.ts < e.forkAt)
  sole : s.txs = [tx.hash]
  tsOk : s.ts < maxU64
  hashOk : findBody st.bodies s.hash = none ∨ findBody st.bodies s.hash = some s
  shape : isConsensusType c tx.ttype = true → ShapeOK c tx ∧ tx.isGenesis = false

/-- **chain step.** A finalized operation on a chain store leaves the chain as it was
    (rejected, non-consensus class, or replay of the last operation) or extends it by exactly
    this snapshot; in the second case the operation is of a consensus class and its
    timestamp is strictly later than the previous last. -/
theorem chain_step (c : Codes) (e : Env) (st st' : Store) (es : List Snap) (s : Snap) (self : Bool)
    (round : Nat) (tx : Tx) (typeOk : Bool) (hc : Chain st es) (ho : OpOK c e st s tx)
    (h : finalizeOp c e st s self round tx typeOk = some st') :
    Chain st' es ∨ (Chain st' (es ++ [s]) ∧ isConsensusType c tx.ttype = true) := by
  have hc1 := chain_addBody st es s hc
  rcases finalizeOp_some c e st st' s self round tx typeOk h with rfl | ⟨hp, hw⟩
  · exact .inl hc
  by_cases hcons : isConsensusType c tx.ttype = true
  · rw [if_pos hcons] at hw
    have hacc := kernel_single_refs c e st s self round tx true ho.sole (fun hf => ho.noFork hf.2) hp
    rw [ho.noHack] at hacc
    obtain ⟨last, b, ltx, hr, htx, hlink⟩ := consensus_links_prev c st none s.ts tx hcons hacc
    obtain ⟨ys, l, rfl, hrl⟩ := readLast_chain st es hc
    obtain rfl : l = last := ReadLast.some.inj (hrl.symm.trans ((readLastWithHack_none st last b).mp hr).1)
    rw [writeWithHack_linked c e (addBody st s) s l tx ltx ho.noHack hcons (ho.shape hcons).1 ho.sole
      (readLast_addBody st s l hrl) htx hlink, if_neg (by rw [(ho.shape hcons).2]; decide)] at hw
    cases hw
    by_cases h1 : ltx = tx.hash
    · rw [if_pos h1]; exact .inl hc1
    · obtain hl1 | ⟨_, h3⟩ := hlink
      · exact absurd hl1 h1
      · rw [if_neg h1]
        exact .inr ⟨chain_extend _ ys l s tx.hash hc1 h3 ho.sole ho.tsOk
          (findBody_addBody_self st s ho.hashOk), hcons⟩
  · rw [if_neg hcons] at hw; rw [hw]; exact .inl hc1

/-- one finalized single-transaction snapshot -/
structure FOp where
  s : Snap
  self : Bool
  round : Nat
  tx : Tx
  typeOk : Bool

/-- a sequence of finalizations on one node; `none` = a panic -/
def runOps (c : Codes) (e : Env) : Store → List FOp → Option Store
  | st, [] => some st
  | st, o :: rest =>
    match finalizeOp c e st o.s o.self o.round o.tx o.typeOk with
    | none => none
    | some st' => runOps c e st' rest

def OpsOK (c : Codes) (e : Env) : Store → List FOp → Prop
  | _, [] => True
  | st, o :: rest =>
    OpOK c e st o.s o.tx ∧
      ∀ st', finalizeOp c e st o.s o.self o.round o.tx o.typeOk = some st' → OpsOK c e st' rest

/-- **consensus_history_is_chain.** From a chain store (the genesis record is one), after every
    sequence of finalized operations — accepted and rejected, consensus and other classes,
    replays — the `CONSENSUSSNAPSHOT` records are again one chain that extends the old one:
    each record names the transaction of the next, timestamps strictly increase, the last
    record is open. -/
theorem consensus_history_is_chain (c : Codes) (e : Env) (st st' : Store) (es : List Snap)
    (ops : List FOp) (hc : Chain st es) (hok : OpsOK c e st ops)
    (h : runOps c e st ops = some st') : ∃ ext, Chain st' (es ++ ext) := by
  induction ops generalizing st es with
  | nil => exact ⟨[], by rw [List.append_nil, ← Option.some.inj h]; exact hc⟩
  | cons o rest ih =>
    rw [runOps] at h
    cases hf : finalizeOp c e st o.s o.self o.round o.tx o.typeOk <;> rw [hf] at h
    case none => cases h
    case some st1 =>
      rcases chain_step c e st st1 es o.s o.self o.round o.tx o.typeOk hc hok.1 hf with h1 | ⟨h1, _⟩
      · exact ih st1 es h1 (hok.2 st1 hf) h
      · obtain ⟨ext, hx⟩ := ih st1 (es ++ [o.s]) h1 (hok.2 st1 hf) h
        exact ⟨o.s :: ext, by rwa [List.append_assoc] at hx⟩

/-- the genesis load: one readable single-transaction snapshot, one open record -/
theorem chain_genesis (g : Snap) (x : Nat) (hx : g.txs = [x]) (ht : g.ts < maxU64) :
    Chain ⟨[g], [⟨g.ts, g.hash, none⟩]⟩ [g] :=
  ⟨by simp, rfl, by simp, by
    intro s hs; simp only [List.mem_singleton] at hs; subst hs
    exact ⟨by simp [findBody], ⟨x, hx⟩, ht⟩⟩

/- non-vacuity: two linked operations, a wrong reference, an equal timestamp and a replay -/
example :
    (runOps realCodes ⟨false, 0, none⟩ ⟨[⟨100, 5, [7]⟩], [⟨5, 100, none⟩]⟩
      [⟨⟨101, 9, [8]⟩, true, 1, ⟨8, 20, false, some 178, false, [7]⟩, true⟩,      -- slash: always rejected
       ⟨⟨102, 9, [9]⟩, true, 1, ⟨9, 6, false, some 163, false, [7]⟩, true⟩,       -- pledge, linked
       ⟨⟨103, 9, [10]⟩, true, 1, ⟨10, 1, true, some 0, false, [9]⟩, true⟩,        -- equal timestamp
       ⟨⟨104, 12, [11]⟩, true, 1, ⟨11, 1, true, some 0, false, [7]⟩, true⟩,       -- stale reference
       ⟨⟨105, 12, [12]⟩, true, 1, ⟨12, 1, true, some 0, false, [9]⟩, true⟩,       -- mint, linked
       ⟨⟨106, 15, [12]⟩, true, 1, ⟨12, 1, true, some 0, false, [9]⟩, true⟩]       -- replay
      ).map (·.recs) = some [⟨5, 100, some 9⟩, ⟨9, 102, some 12⟩, ⟨12, 105, none⟩] := by decide

/-! ## lifting to `validateSnapshotTransaction`

Every proposed and every finalized snapshot enters through `validateSnapshotTransaction`, which
finds each body either in the persistent store (written by an earlier proposal — possibly one
that never finalized, validated against an older consensus head) or in the cache. The theorems
below hold for every placement of the bodies and every answer of `tx.Validate` and of the
lock: they rely on exactly one thing in the persisted branch — that the kernel snapshot rule
is run again, against the *current* store, on the set of bodies found so far. Nothing is
assumed about what was checked when the body was persisted. -/

def foundOf (items : List Item) : List Tx :=
  (items.filter (fun it => it.loc != .absent)).map (·.tx)

theorem foundOf_absent {it : Item} (hl : it.loc = .absent) (rest : List Item) :
    foundOf (it :: rest) = foundOf rest := by
  rw [foundOf, List.filter_cons_of_neg (by rw [hl]; decide)]; rfl

theorem foundOf_found {it : Item} (hl : it.loc ≠ .absent) (rest : List Item) :
    foundOf (it :: rest) = it.tx :: foundOf rest := by
  rw [foundOf, List.filter_cons_of_pos (by exact bne_iff_ne.mpr hl)]; rfl

section loop
variable (c : Codes) (e : Env) (st : Store) (s : Snap) (self : Bool) (round : Nat) (fin typeOk : Bool)

theorem kernelStep_accept (found : List Tx)
    (h : kernelStep c e st s self round found fin typeOk = .accept) :
    Passed (validateKernel c e st s self round found fin) := by
  unfold kernelStep at h
  cases hk : validateKernel c e st s self round found fin <;> rw [hk] at h
  case accept => exact .inl rfl
  case typeCheck => exact .inr rfl
  case reject | panic => cases h

/-- loop invariant: an accepting run returns exactly the found bodies, and the kernel snapshot
    rule passed on the complete found set (it is re-run after every addition) -/
theorem vstLoop_accept (items : List Item) (found : List Tx) (missing : Nat) (newly : List Nat)
    {fnd : List Tx} {m : Nat} {nw : List Nat}
    (h : vstLoop c e st s self round fin typeOk items found missing newly = ⟨.accept, fnd, m, nw⟩) :
    fnd = found ++ foundOf items ∧
      (foundOf items ≠ [] → Passed (validateKernel c e st s self round (found ++ foundOf items) fin)) := by
  induction items generalizing found missing newly with
  | nil => cases h; exact ⟨(List.append_nil _).symm, fun h => absurd rfl h⟩
  | cons it rest ih =>
    rw [vstLoop] at h
    by_cases hl : it.loc = .absent
    · rw [hl] at h; rw [foundOf_absent hl]; exact ih _ _ _ h
    -- a found body: the kernel step on `found ++ [it.tx]` accepted and the loop went on
    have ⟨newly', hk, h'⟩ : ∃ newly', kernelStep c e st s self round (found ++ [it.tx]) fin typeOk = .accept ∧
        vstLoop c e st s self round fin typeOk rest (found ++ [it.tx]) missing newly' = ⟨.accept, fnd, m, nw⟩ := by
      cases hloc : it.loc with
      | absent => exact absurd hloc hl
      | persisted f =>
        simp only [hloc] at h
        obtain ⟨_, h⟩ := of_ite_eq h nofun
        cases hk : kernelStep c e st s self round (found ++ [it.tx]) fin typeOk <;> rw [hk] at h
        case accept => exact ⟨_, rfl, h⟩
        case reject | panic => cases h
      | cached =>
        simp only [hloc] at h
        obtain ⟨_, h⟩ := of_ite_eq h nofun
        obtain ⟨_, h⟩ := of_ite_eq h nofun
        cases hk : kernelStep c e st s self round (found ++ [it.tx]) fin typeOk <;> rw [hk] at h
        case accept => exact ⟨_, rfl, (of_ite_eq h nofun).2⟩
        case reject | panic => cases h
    rw [foundOf_found hl]
    obtain ⟨h1, h2⟩ := ih _ _ _ h'
    rw [List.append_assoc] at h1 h2
    refine ⟨h1, fun _ => ?_⟩
    by_cases hr : foundOf rest = []
    · rw [hr]; exact kernelStep_accept c e st s self round fin typeOk _ hk
    · exact h2 hr

theorem vst_accept (items : List Item)
    (h : (validateSnapshotTx c e st s self round fin typeOk items).decision = .accept) :
    (validateSnapshotTx c e st s self round fin typeOk items).found = foundOf items ∧
      (foundOf items ≠ [] → Passed (validateKernel c e st s self round (foundOf items) fin)) := by
  cases hv : validateSnapshotTx c e st s self round fin typeOk items with
  | mk dec fnd m nw =>
    rw [hv] at h; cases h
    exact vstLoop_accept c e st s self round fin typeOk items [] 0 [] hv

theorem vst_found_passed (items : List Item) (it : Item) (hit : it ∈ items) (hloc : it.loc ≠ .absent)
    (h : (validateSnapshotTx c e st s self round fin typeOk items).decision = .accept) :
    it.tx ∈ foundOf items ∧ Passed (validateKernel c e st s self round (foundOf items) fin) :=
  have hm : it.tx ∈ foundOf items := List.mem_map.mpr ⟨it, List.mem_filter.mpr ⟨hit, bne_iff_ne.mpr hloc⟩, rfl⟩
  ⟨hm, (vst_accept c e st s self round fin typeOk items h).2 (List.ne_nil_of_mem hm)⟩

end loop

/-- **multi_tx_only_batchable, at `validateSnapshotTransaction`.** A snapshot with more than one
    transaction that is accepted: every body found — persisted earlier or cached — is script /
    deposit / withdrawal submit / withdrawal claim. -/
theorem vst_multi_tx_only_batchable (c : Codes) (e : Env) (st : Store) (s : Snap) (self : Bool)
    (round : Nat) (fin typeOk : Bool) (items : List Item) (hlen : s.txs.length > 1)
    (h : (validateSnapshotTx c e st s self round fin typeOk items).decision = .accept) :
    ∀ it ∈ items, it.loc ≠ .absent →
      it.tx.ttype = c.tScript ∨ it.tx.ttype = c.tDeposit ∨
        it.tx.ttype = c.tWithdrawalSubmit ∨ it.tx.ttype = c.tWithdrawalClaim := by
  intro it hit hloc
  have ⟨hm, hp⟩ := vst_found_passed c e st s self round fin typeOk items it hit hloc h
  exact multi_tx_only_batchable c e st s self round (foundOf items) fin hlen hp it.tx hm

/-- **consensus_alone, at `validateSnapshotTransaction`.** An accepted snapshot in which a mint,
    membership or custodian body was found — wherever it was found — holds one transaction. -/
theorem vst_consensus_alone (c : Codes) (hc : CodesOK c) (e : Env) (st : Store) (s : Snap)
    (self : Bool) (round : Nat) (fin typeOk : Bool) (items : List Item) (it : Item)
    (hit : it ∈ items) (hloc : it.loc ≠ .absent) (hcons : isConsensusType c it.tx.ttype = true)
    (h : (validateSnapshotTx c e st s self round fin typeOk items).decision = .accept) :
    s.txs.length ≤ 1 := by
  have ⟨hm, hp⟩ := vst_found_passed c e st s self round fin typeOk items it hit hloc h
  exact consensus_alone c hc e st s self round (foundOf items) fin it.tx hm hcons hp

/-- **consensus_links_prev, at `validateSnapshotTransaction`.** A consensus operation accepted
    alone — its body persisted by an earlier proposal or taken from the cache — has the
    *currently* recorded last consensus transaction as first reference and a strictly later
    snapshot timestamp (or is that last transaction again), outside the hard-coded mainnet
    pre-fork exemption. -/
theorem vst_consensus_links_prev (c : Codes) (e : Env) (st : Store) (s : Snap) (self : Bool)
    (round : Nat) (fin typeOk : Bool) (it : Item) (hloc : it.loc ≠ .absent)
    (hs : s.txs = [it.tx.hash])
    (hfork : ¬ (fin = true ∧ e.mainnet = true ∧ s.ts < e.forkAt))
    (hcons : isConsensusType c it.tx.ttype = true)
    (h : (validateSnapshotTx c e st s self round fin typeOk [it]).decision = .accept) :
    LinksPrev st e.hack s.ts it.tx := by
  have hp := (vst_found_passed c e st s self round fin typeOk [it] it (List.mem_singleton_self it) hloc h).2
  rw [foundOf_found hloc] at hp
  exact kernel_consensus_links_prev c e st s self round it.tx fin hs hfork hcons hp

/- non-vacuity: a persisted deposit and a cached script are accepted together -/
example : (validateSnapshotTx realCodes ⟨false, 0, none⟩ ⟨[⟨100, 5, [7]⟩], [⟨5, 100, none⟩]⟩
    ⟨200, 9, [10, 11]⟩ true 1 false true
    [⟨⟨10, 2, false, some 0, false, []⟩, .persisted none, false, false, false⟩,
     ⟨⟨11, 0, false, some 0, false, []⟩, .cached, true, false, true⟩]).decision = .accept := by decide

/- the persisted, never finalized operation `8` (reference `7`) is rejected once the head has
    moved to `9` … -/
example : (validateSnapshotTx realCodes ⟨false, 0, none⟩
    ⟨[⟨100, 5, [7]⟩, ⟨101, 9, [9]⟩], [⟨5, 100, some 9⟩, ⟨9, 101, none⟩]⟩
    ⟨200, 12, [8]⟩ true 1 false true
    [⟨⟨8, 1, true, some 0, false, [7]⟩, .persisted none, false, false, false⟩]).decision = .reject := by decide

/-- **persisted_branch_must_revalidate.** … and the kernel snapshot rule is what rejects it:
    the loop that trusts persisted bodies ("validated before it was persisted") accepts the
    same stale operation alone, and accepts it inside a batch. -/
theorem persisted_branch_must_revalidate :
    (vstLoopTrusting realCodes ⟨false, 0, none⟩
      ⟨[⟨100, 5, [7]⟩, ⟨101, 9, [9]⟩], [⟨5, 100, some 9⟩, ⟨9, 101, none⟩]⟩
      ⟨200, 12, [8]⟩ true 1 false true
      [⟨⟨8, 1, true, some 0, false, [7]⟩, .persisted none, false, false, false⟩] [] 0 []).decision = .accept ∧
    (vstLoopTrusting realCodes ⟨false, 0, none⟩
      ⟨[⟨100, 5, [7]⟩, ⟨101, 9, [9]⟩], [⟨5, 100, some 9⟩, ⟨9, 101, none⟩]⟩
      ⟨201, 12, [8, 10]⟩ true 1 false true
      [⟨⟨8, 1, true, some 0, false, [7]⟩, .persisted none, false, false, false⟩,
       ⟨⟨10, 2, false, some 0, false, []⟩, .persisted none, false, false, false⟩] [] 0 []).decision = .accept := by
  decide

/-! ## class of a transaction vs. effects of its outputs

C28 speaks about *operations*. The kernel rules above are decided on the class of a transaction
(`TransactionType()`: first special output), storage applies membership / custodian state per
output type (`writeUTXO`). The bridge is what `Validate` enforces about the outputs of the
batchable classes (`shapeValid`, tied to the real `Validate` by the `consensusfx` stream). -/

open Mixin.ConsensusEffects in
theorem classOfIns_ne_script (ins : List InKind) : classOfIns ins ≠ some .script := by
  induction ins with
  | nil => intro h; cases h
  | cons a t ih =>
    cases a with
    | utxo => exact ih
    | deposit | mint | genesis => intro h; cases h

open Mixin.ConsensusEffects in
theorem classOfOuts_script (outs : List OType) (b : Bool) (h : classOfOuts outs b = .script) :
    b = true ∧ ∀ o ∈ outs, o = .script := by
  induction outs generalizing b with
  | nil =>
    cases b
    · cases h
    · exact ⟨rfl, fun _ ho => absurd ho List.not_mem_nil⟩
  | cons o rest ih =>
    cases o with
    | script => exact ⟨(ih b h).1, List.forall_mem_cons.mpr ⟨rfl, (ih b h).2⟩⟩
    | other n => exact absurd (ih false h).1 Bool.false_ne_true
    | wSubmit | wClaim | pledge | cancel | accept | remove | custUpdate | custSlash => cases h

open Mixin.ConsensusEffects in
theorem head_tail_no_effects {outs : List OType} {x : OType} (hx : x.consensusEffect = false)
    (hv : (outs.head? == some x && outs.tail.all (· == .script)) = true) :
    ∀ o ∈ outs, o.consensusEffect = false := by
  cases outs with
  | nil => exact fun _ ho => absurd ho List.not_mem_nil
  | cons a t =>
    obtain ⟨h1, h2⟩ := Bool.and_eq_true_iff.mp hv
    refine List.forall_mem_cons.mpr ⟨?_, fun o ho => ?_⟩
    · rw [Option.some.inj (eq_of_beq h1)]; exact hx
    · rw [eq_of_beq (List.all_eq_true.mp h2 o ho)]; rfl

open Mixin.ConsensusEffects in
/-- **batchable_class_has_no_consensus_effects.** A transaction of a batchable class (script,
    deposit, withdrawal submit, withdrawal claim) whose outputs have the shape its validator
    enforces carries no output for which `writeUTXO` applies membership or custodian state. -/
theorem batchable_class_has_no_consensus_effects (ins : List InKind) (outs : List OType)
    (hb : (classOf ins outs).batchable = true)
    (hv : shapeValid (classOf ins outs) outs = true) :
    ∀ o ∈ outs, o.consensusEffect = false := by
  cases hc : classOf ins outs with
  | script =>
    -- the inputs never decide `script`, so the output loop did
    have hs : classOfOuts outs true = .script := by
      unfold classOf at hc
      cases hi : classOfIns ins with
      | none => rwa [hi] at hc
      | some k => rw [hi] at hc; exact absurd (hc ▸ hi) (classOfIns_ne_script ins)
    intro o ho
    rw [(classOfOuts_script outs true hs).2 o ho]; rfl
  | deposit =>
    rw [hc] at hv
    rw [eq_of_beq hv]
    exact fun o ho => List.mem_singleton.mp ho ▸ rfl
  | wSubmit => rw [hc] at hv; exact head_tail_no_effects rfl hv
  | wClaim => rw [hc] at hv; exact head_tail_no_effects rfl hv
  | mint | pledge | accept | remove | cancel | custUpdate | custSlash | unknown =>
    rw [hc] at hb; cases hb

open Mixin.ConsensusEffects in
/-- the numeric batchable table agrees with the class table -/
theorem isBatchable_code (cls : Class) : isBatchable realCodes cls.code = cls.batchable := by
  cases cls <;> decide

open Mixin.ConsensusEffects in
theorem batchable_type_has_no_consensus_effects (t : Nat) (ins : List InKind) (outs : List OType)
    (ht : isBatchable realCodes t = true) (hclass : t = (classOf ins outs).code)
    (hvalid : (classOf ins outs).batchable = true → shapeValid (classOf ins outs) outs = true) :
    ∀ o ∈ outs, o.consensusEffect = false := by
  rw [hclass, isBatchable_code] at ht
  exact batchable_class_has_no_consensus_effects ins outs ht (hvalid ht)

open Mixin.ConsensusEffects in
/-- **multi_tx_snapshot_has_no_consensus_effects.** In a snapshot with more than one
    transaction that passes the kernel validator, a found transaction whose batchable class was
    accepted by `Validate` (hypothesis `hvalid`: what the class validators enforce) has no
    output that changes membership or custodian state. -/
theorem multi_tx_snapshot_has_no_consensus_effects (e : Env) (st : Store) (s : Snap) (self : Bool)
    (round : Nat) (found : List Tx) (fin : Bool) (hlen : s.txs.length > 1)
    (hp : Passed (validateKernel realCodes e st s self round found fin))
    (t : Tx) (ht : t ∈ found) (ins : List InKind) (outs : List OType)
    (hclass : t.ttype = (classOf ins outs).code)
    (hvalid : (classOf ins outs).batchable = true → shapeValid (classOf ins outs) outs = true) :
    ∀ o ∈ outs, o.consensusEffect = false :=
  batchable_type_has_no_consensus_effects t.ttype ins outs ((isBatchable_iff _ _).mpr
    (multi_tx_only_batchable realCodes e st s self round found fin hlen hp t ht)) hclass hvalid

open Mixin.ConsensusEffects in
/-- … the same at `validateSnapshotTransaction`, for every body it found. -/
theorem vst_multi_tx_has_no_consensus_effects (e : Env) (st : Store) (s : Snap) (self : Bool)
    (round : Nat) (fin typeOk : Bool) (items : List Item) (hlen : s.txs.length > 1)
    (h : (validateSnapshotTx realCodes e st s self round fin typeOk items).decision = .accept)
    (it : Item) (hit : it ∈ items) (hloc : it.loc ≠ .absent) (ins : List InKind) (outs : List OType)
    (hclass : it.tx.ttype = (classOf ins outs).code)
    (hvalid : (classOf ins outs).batchable = true → shapeValid (classOf ins outs) outs = true) :
    ∀ o ∈ outs, o.consensusEffect = false :=
  batchable_type_has_no_consensus_effects it.tx.ttype ins outs ((isBatchable_iff _ _).mpr
    (vst_multi_tx_only_batchable realCodes e st s self round fin typeOk items hlen h it hit hloc))
    hclass hvalid

open Mixin.ConsensusEffects in
/-- a consensus effect is only reachable through a consensus class (or a rejected shape):
    contrapositive reading used by the harness oracle -/
theorem consensus_effect_needs_consensus_class (ins : List InKind) (outs : List OType) (o : OType)
    (ho : o ∈ outs) (he : o.consensusEffect = true)
    (hv : (classOf ins outs).batchable = true → shapeValid (classOf ins outs) outs = true) :
    (classOf ins outs).batchable = false := by
  cases hb : (classOf ins outs).batchable with
  | false => rfl
  | true =>
    have := batchable_class_has_no_consensus_effects ins outs hb (hv hb) o ho
    rw [he] at this; exact absurd this (by simp)

open Mixin.ConsensusEffects in
/- non-vacuity: the canonical shapes are valid … -/
example : shapeValid (classOf [.utxo] [.wSubmit, .script, .script]) [.wSubmit, .script, .script] = true ∧
    shapeValid (classOf [.deposit] [.script]) [.script] = true ∧
    shapeValid (classOf [.utxo] [.wClaim, .script]) [.wClaim, .script] = true := by decide

open Mixin.ConsensusEffects in
/-- **weak_submit_check_admits_effect.** … and the shape condition is load-bearing: a check of
    the second output only (instead of every further output) admits a withdrawal-submit class
    transaction — batchable, no consensus reference — that pledges a node. -/
theorem weak_submit_check_admits_effect :
    let outs : List OType := [.wSubmit, .script, .pledge]
    classOf [.utxo] outs = .wSubmit ∧ (classOf [.utxo] outs).batchable = true ∧
      (outs.head? == some .wSubmit && (outs.drop 1).head?.all (· == .script)) = true ∧
      shapeValid (classOf [.utxo] outs) outs = false ∧ outs.any (·.consensusEffect) = true := by
  decide

end Mixin.C28
