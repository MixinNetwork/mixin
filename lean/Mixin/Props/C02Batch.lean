import Mixin.Model.BatchVerify
import Mixin.Proofs.Cosi
import Mathlib.Data.ZMod.Basic
import Mathlib.Algebra.Module.BigOperators
import Mathlib.Tactic.Abel
import Mathlib.Tactic.Ring
/-!
# C02 (batch part) — batch signature checking agrees with checking each signature on its own

Theorems about the executable model `Mixin.BatchVerify` (points named by discrete logs, tied to
crypto/batch.go by the `batchverify` stream with injected coefficients).  Everything rests on
`batch_error_terms`: for a GIVEN coefficient vector the batch accepts iff every entry decodes and
`Σ zᵢ·eᵢ = 0` in `ZMod ℓ`, with `eᵢ = sᵢ − (rᵢ + cᵢ·aᵢ)` the error of entry `i`.

The first section states the same algebra for every `ZMod ℓ`-module `G` with base point `B`: the
point the code tests against the identity is `−Σ zᵢ•Eᵢ` with `Eᵢ = sᵢ•B − Rᵢ − cᵢ•Aᵢ`.  It stands
beside the model, not under it: the model theorems are proved directly from `loop_spec` and are
not instances of the group statements, and no theorem says that the model is the case
`G = ZMod ℓ`, `B = 1`.

Not a theorem: the probabilistic soundness "for entries fixed before the coefficients are
drawn, an invalid entry survives a random 128-bit `z` with probability ≤ 2⁻¹²⁸" (it needs ℓ prime
and a probability space; `batch_error_terms` is the deterministic statement it rests on), and the
quality of the random source.  Torsion: the model covers the prime-order subgroup (points are
discrete logs; `decodePoint` refuses everything else, so the final `MultByCofactor` is modelled as
multiplication by 8 mod ℓ and shown harmless, `final_test`).  Encodings with a small-order
component are `Pt.bad` in the model; that the real code refuses them in the batch exactly as in the
single check is tested only (harness: `d•B + T` entries).
-/
namespace Mixin.C02Batch
open Mixin.Cosi Mixin.BatchVerify

section Abstract
variable {G : Type} [AddCommGroup G] [Module (ZMod ell) G] (B : G)

def errPt (s c : ZMod ell) (R A : G) : G := s • B - R - c • A

/-- the point `[-Σ zᵢsᵢ]B + Σ [zᵢ]Rᵢ + Σ [zᵢcᵢ]Aᵢ` computed by `Verify` is `−Σ zᵢ•Eᵢ` -/
theorem batch_point_eq {ι : Type} (t : Finset ι) (z s c : ι → ZMod ell) (R A : ι → G) :
    (-(∑ i ∈ t, z i * s i)) • B + ∑ i ∈ t, z i • R i + ∑ i ∈ t, (z i * c i) • A i =
      -(∑ i ∈ t, z i • errPt B (s i) (c i) (R i) (A i)) := by
  simp only [errPt, smul_sub, Finset.sum_sub_distrib, neg_smul, Finset.sum_smul, mul_smul, neg_sub]
  abel

/-- all entries valid ⇒ the batch point is the identity for EVERY coefficient vector -/
theorem batch_complete_group {ι : Type} (t : Finset ι) (z s c : ι → ZMod ell) (R A : ι → G)
    (h : ∀ i ∈ t, errPt B (s i) (c i) (R i) (A i) = 0) :
    (-(∑ i ∈ t, z i * s i)) • B + ∑ i ∈ t, z i • R i + ∑ i ∈ t, (z i * c i) • A i = 0 := by
  rw [batch_point_eq, Finset.sum_eq_zero (fun i hi => by rw [h i hi, smul_zero]), neg_zero]

/-- accepted for the unit coefficient vectors (a fortiori: for every vector) ⇒ every entry valid -/
theorem batch_sound_all_coeffs_group {ι : Type} [DecidableEq ι] (t : Finset ι) (s c : ι → ZMod ell)
    (R A : ι → G)
    (h : ∀ j ∈ t, (-(∑ i ∈ t, (if i = j then (1 : ZMod ell) else 0) * s i)) • B +
        ∑ i ∈ t, (if i = j then (1 : ZMod ell) else 0) • R i +
        ∑ i ∈ t, ((if i = j then (1 : ZMod ell) else 0) * c i) • A i = 0) :
    ∀ j ∈ t, errPt B (s j) (c j) (R j) (A j) = 0 := by
  intro j hj
  have := h j hj
  rw [batch_point_eq, neg_eq_zero, Finset.sum_eq_single j] at this
  · rwa [if_pos rfl, one_smul] at this
  · intro i _ hij
    rw [if_neg hij, zero_smul]
  · exact fun hnot => absurd hj hnot

/-- with an injective `k ↦ k•B`, an entry over points `r•B`, `a•B` is valid iff `s = r + c·a` -/
theorem entry_valid_iff_group (hB : Function.Injective (fun k : ZMod ell => k • B))
    (s c r a : ZMod ell) : errPt B s c (r • B) (a • B) = 0 ↔ s = r + c * a := by
  rw [errPt, sub_sub, ← mul_smul, ← add_smul, ← sub_smul, ← sub_eq_zero (a := s)]
  exact ⟨fun e => hB (e.trans (zero_smul _ B).symm), fun e => by rw [e, zero_smul]⟩

/-- one shared coefficient lets opposite errors cancel (in any group) -/
theorem same_coefficient_cancels_group (z : ZMod ell) (E : G) : z • E + z • (-E) = 0 := by
  rw [smul_neg, add_neg_cancel]

end Abstract

/-- the entry passes the decoding steps of the loop -/
def Decodable (e : Entry) : Prop :=
  e.sigLen = 64 ∧ e.R.decode ≠ none ∧ e.A.decode ≠ none ∧ e.s < ell

/-- per-entry error `e = s − (r + c·a)` in `ZMod ℓ` -/
def err (e : Entry) : ZMod ell :=
  (e.s : ZMod ell) - ((dlOf e.R : ZMod ell) + (e.c : ZMod ell) * (dlOf e.A : ZMod ell))

/-- `Σ zᵢ·eᵢ` -/
def errSum : List Entry → List Nat → ZMod ell
  | e :: es, z :: zs => (z : ZMod ell) * err e + errSum es zs
  | _, _ => 0

theorem errSum_cons (e : Entry) (es : List Entry) (z : Nat) (zs : List Nat) :
    errSum (e :: es) (z :: zs) = (z : ZMod ell) * err e + errSum es zs :=
  rfl

theorem errSum_zero_of_valid (es : List Entry) (zs : List Nat) (h : ∀ e ∈ es, err e = 0) :
    errSum es zs = 0 := by
  induction es generalizing zs with
  | nil => rfl
  | cons e es ih =>
    cases zs with
    | nil => rfl
    | cons z zs =>
      rw [errSum_cons, h e List.mem_cons_self, mul_zero, zero_add,
        ih zs fun x hx => h x (List.mem_cons_of_mem _ hx)]

theorem errSum_replicate (es : List Entry) (z : Nat) :
    errSum es (List.replicate es.length z) = (z : ZMod ell) * (es.map err).sum := by
  induction es with
  | nil => simp [errSum]
  | cons e es ih => simp [List.replicate_succ, errSum, ih, mul_add]

theorem errSum_zeros (es : List Entry) : errSum es (List.replicate es.length 0) = 0 := by
  rw [errSum_replicate, Nat.cast_zero, zero_mul]

theorem zeros_le_one (n : Nat) : ∀ z ∈ List.replicate n 0, z ≤ 1 :=
  fun _ hz => List.eq_of_mem_replicate hz ▸ Nat.zero_le 1

/-- if `Σ zᵢ·eᵢ` vanishes for every coefficient vector with entries 0 or 1, every `eᵢ` is zero:
    the unit vectors pick the errors out one by one -/
theorem err_zero_of_errSum_zero (es : List Entry)
    (h : ∀ zs : List Nat, zs.length = es.length → (∀ z ∈ zs, z ≤ 1) → errSum es zs = 0) :
    ∀ e ∈ es, err e = 0 := by
  induction es with
  | nil => exact List.forall_mem_nil _
  | cons e0 rest ih =>
    refine List.forall_mem_cons.2 ⟨?_, ih fun zs hl hz => ?_⟩
    · have := h (1 :: List.replicate rest.length 0) (by rw [List.length_cons, List.length_cons, List.length_replicate])
        (List.forall_mem_cons.2 ⟨Nat.le_refl 1, zeros_le_one _⟩)
      rwa [errSum_cons, errSum_zeros, Nat.cast_one, one_mul, add_zero] at this
    · have := h (0 :: zs) (by rw [List.length_cons, List.length_cons, hl])
        (List.forall_mem_cons.2 ⟨Nat.zero_le 1, hz⟩)
      rwa [errSum_cons, Nat.cast_zero, zero_mul, zero_add] at this

theorem coprime_eight : Nat.Coprime 8 ell := by decide

/-- the final test (cofactor multiplication, comparison with the identity) is `pc − bc = 0` -/
theorem final_test (pc bc : Nat) :
    ((8 * ((pc + (ell - bc % ell)) % ell)) % ell == 0) = true ↔
      (pc : ZMod ell) - (bc : ZMod ell) = 0 := by
  have hu : IsUnit ((8 : Nat) : ZMod ell) := (ZMod.isUnit_iff_coprime 8 ell).2 coprime_eight
  have hle : bc % ell ≤ ell := Nat.le_of_lt (Nat.mod_lt _ ell_pos)
  rw [beq_iff_eq, ← Nat.dvd_iff_mod_eq_zero, ← ZMod.natCast_eq_zero_iff]
  rw [Nat.cast_mul, hu.mul_right_eq_zero, ZMod.natCast_mod, Nat.cast_add, Nat.cast_sub hle,
    ZMod.natCast_self, ZMod.natCast_mod]
  rw [show (pc : ZMod ell) + (0 - (bc : ZMod ell)) = (pc : ZMod ell) - (bc : ZMod ell) by ring]

/-- invariant of the loop of `Verify`: each entry moves `pc − bc` (points minus the coefficient of
    `B`) by `−zᵢ·eᵢ`, so at the end `pc' − bc' = pc − bc − Σ zᵢ·eᵢ` -/
theorem loop_spec (es : List Entry) (zs : List Nat) (bc pc : Nat)
    (hd : ∀ e ∈ es, Decodable e) (hlen : es.length ≤ zs.length) (hz : ∀ z ∈ zs, z < ell) :
    ∃ bc' pc', loop es zs bc pc = some (bc', pc') ∧
      (pc' : ZMod ell) - (bc' : ZMod ell) = (pc : ZMod ell) - (bc : ZMod ell) - errSum es zs := by
  induction es generalizing zs bc pc with
  | nil => exact ⟨bc, pc, rfl, (sub_zero _).symm⟩
  | cons e es ih =>
    cases zs with
    | nil => exact absurd hlen (Nat.not_succ_le_zero _)
    | cons z zs =>
      obtain ⟨h64, hR, hA, hs⟩ := hd e List.mem_cons_self
      obtain ⟨r, hr⟩ := Option.ne_none_iff_exists'.1 hR
      obtain ⟨a, ha⟩ := Option.ne_none_iff_exists'.1 hA
      have hzl : z < ell := hz z List.mem_cons_self
      obtain ⟨bc', pc', h1, h2⟩ := ih zs ((z * e.s + bc) % ell) ((pc + z * r + (z * e.c % ell) * a) % ell)
        (fun x hx => hd x (List.mem_cons_of_mem _ hx)) (Nat.le_of_succ_le_succ hlen)
        (fun x hx => hz x (List.mem_cons_of_mem _ hx))
      refine ⟨bc', pc', ?_, ?_⟩
      · unfold loop
        rw [if_neg (not_not.2 h64), hr, ha]
        dsimp only
        rw [if_neg (Nat.not_le.2 hzl), if_neg (Nat.not_le.2 hs)]
        exact h1
      · rw [h2, errSum_cons, err, dlOf, dlOf, hr, ha, Option.getD_some, Option.getD_some]
        simp only [ZMod.natCast_mod, Nat.cast_add, Nat.cast_mul]
        ring

theorem decodable_of_loop (es : List Entry) (zs : List Nat) (bc pc : Nat) (r : Nat × Nat)
    (h : loop es zs bc pc = some r) : ∀ e ∈ es, Decodable e := by
  induction es generalizing zs bc pc with
  | nil => exact List.forall_mem_nil _
  | cons e es ih =>
    cases zs with
    | nil => cases h
    | cons z zs =>
      unfold loop at h
      obtain ⟨h64, h⟩ := of_ite_eq h nofun
      cases hr : e.R.decode with
      | none => rw [hr] at h; cases h
      | some r =>
        cases ha : e.A.decode with
        | none => rw [hr, ha] at h; cases h
        | some a =>
          rw [hr, ha] at h
          obtain ⟨-, h⟩ := of_ite_eq h nofun
          obtain ⟨hs, h⟩ := of_ite_eq h nofun
          exact List.forall_mem_cons.2 ⟨⟨not_not.1 h64, hr ▸ Option.some_ne_none r,
            ha ▸ Option.some_ne_none a, Nat.not_le.1 hs⟩, ih _ _ _ h⟩

/-- for a given coefficient vector (one canonical coefficient per entry)
    `BatchVerifier.Verify` accepts iff the batch is non-empty, every entry passes decoding, and
    `Σ zᵢ·eᵢ = 0` in `ZMod ℓ`. -/
theorem batch_error_terms (es : List Entry) (zs : List Nat) (hlen : es.length = zs.length)
    (hz : ∀ z ∈ zs, z < ell) :
    verifierVerify es zs = true ↔ es ≠ [] ∧ (∀ e ∈ es, Decodable e) ∧ errSum es zs = 0 := by
  unfold verifierVerify
  cases es with
  | nil => simp
  | cons e0 rest =>
    simp only [List.isEmpty_cons, Bool.false_eq_true, if_false, ne_eq, reduceCtorEq,
      not_false_eq_true, true_and]
    by_cases hd : ∀ e ∈ e0 :: rest, Decodable e
    · obtain ⟨bc', pc', h1, h2⟩ := loop_spec (e0 :: rest) zs 0 0 hd (le_of_eq hlen) hz
      rw [h1]
      simp only
      rw [final_test, h2]
      simp only [Nat.cast_zero, sub_zero, zero_sub, neg_eq_zero]
      exact ⟨fun h => ⟨hd, h⟩, fun h => h.2⟩
    · cases hl : loop (e0 :: rest) zs 0 0 with
      | none => exact ⟨nofun, fun h => absurd h.1 hd⟩
      | some r => exact absurd (decodable_of_loop _ _ _ _ r hl) hd

/-- `Key.Verify` of a 64-byte signature: the entry decodes and its error is zero -/
theorem single_iff (e : Entry) (h64 : e.sigLen = 64) :
    single e = true ↔ Decodable e ∧ err e = 0 := by
  -- for a canonical `s`, the equation mod ℓ says that the error vanishes
  have key : ∀ a r : Nat, e.s < ell → (e.s = (r + e.c * a) % ell ↔
      (e.s : ZMod ell) - ((r : ZMod ell) + (e.c : ZMod ell) * (a : ZMod ell)) = 0) := fun a r hlt => by
    rw [sub_eq_zero, ← Nat.cast_mul, ← Nat.cast_add, ZMod.natCast_eq_natCast_iff', Nat.mod_eq_of_lt hlt]
  unfold single
  rw [verifyWithChallenge_iff]
  constructor
  · rintro ⟨a, r, ha, hr, hlt, hs⟩
    refine ⟨⟨h64, by rw [hr]; simp, by rw [ha]; simp, hlt⟩, ?_⟩
    simp only [err, dlOf, ha, hr, Option.getD_some]
    exact (key a r hlt).1 hs
  · rintro ⟨⟨_, hR, hA, hlt⟩, he⟩
    obtain ⟨r, hr⟩ := Option.ne_none_iff_exists'.1 hR
    obtain ⟨a, ha⟩ := Option.ne_none_iff_exists'.1 hA
    simp only [err, dlOf, ha, hr, Option.getD_some] at he
    exact ⟨a, r, ha, hr, hlt, (key a r hlt).2 he⟩

/-- if every entry of a non-empty batch of 64-byte signatures passes
    `Key.Verify`, the batch is accepted for EVERY coefficient vector. -/
theorem batch_complete (es : List Entry) (zs : List Nat) (hne : es ≠ [])
    (hlen : es.length = zs.length) (hz : ∀ z ∈ zs, z < ell)
    (h : ∀ e ∈ es, e.sigLen = 64 ∧ single e = true) : verifierVerify es zs = true := by
  have hv : ∀ e ∈ es, Decodable e ∧ err e = 0 := fun e he => (single_iff e (h e he).1).1 (h e he).2
  exact (batch_error_terms es zs hlen hz).2
    ⟨hne, fun e he => (hv e he).1, errSum_zero_of_valid es zs fun e he => (hv e he).2⟩

/-- if the batch is accepted for every coefficient vector with
    entries 0 or 1 (in particular for the `n` unit vectors; a fortiori: for every vector the code
    could draw), then every entry passes `Key.Verify`. -/
theorem batch_sound_all_coeffs (es : List Entry)
    (h : ∀ zs : List Nat, zs.length = es.length → (∀ z ∈ zs, z ≤ 1) → verifierVerify es zs = true) :
    ∀ e ∈ es, single e = true := by
  have hterms : ∀ zs : List Nat, zs.length = es.length → (∀ z ∈ zs, z ≤ 1) →
      (∀ e ∈ es, Decodable e) ∧ errSum es zs = 0 := fun zs hl hz =>
    ((batch_error_terms es zs hl.symm
      fun z hm => Nat.lt_of_le_of_lt (hz z hm) (by decide)).1 (h zs hl hz)).2
  have hdec := (hterms (List.replicate es.length 0) List.length_replicate (zeros_le_one _)).1
  have herr := err_zero_of_errSum_zero es fun zs hl hz => (hterms zs hl hz).2
  exact fun e he => (single_iff e (hdec e he).1).2 ⟨hdec e he, herr e he⟩

/-- a one-entry batch with a coefficient invertible mod ℓ (every `0 < z < ℓ`,
    ℓ being prime — primality of ℓ is not proved here, hence the coprimality hypothesis) decides
    exactly like `Key.Verify`. -/
theorem batch_single (e : Entry) (z : Nat) (h64 : e.sigLen = 64) (hz : z < ell)
    (hc : Nat.Coprime z ell) : verifierVerify [e] [z] = single e := by
  have hu : IsUnit ((z : Nat) : ZMod ell) := (ZMod.isUnit_iff_coprime z ell).2 hc
  rw [Bool.eq_iff_iff, batch_error_terms [e] [z] rfl (by simpa using hz), single_iff e h64]
  simp only [ne_eq, reduceCtorEq, not_false_eq_true, List.mem_singleton, forall_eq, errSum,
    add_zero, true_and, hu.mul_right_eq_zero]

/-- the same with primality as a hypothesis: any coefficient `z ≢ 0` -/
theorem batch_single_prime (hp : Nat.Prime ell) (e : Entry) (z : Nat) (h64 : e.sigLen = 64)
    (hz : z < ell) (hz0 : z ≠ 0) : verifierVerify [e] [z] = single e :=
  batch_single e z h64 hz
    (hp.coprime_iff_not_dvd.2 (Nat.not_dvd_of_pos_of_lt (Nat.pos_of_ne_zero hz0) hz)).symm

/-- if all entries got the SAME coefficient, every batch of
    decodable entries whose errors sum to zero is accepted — e.g. two entries with errors `δ`
    and `−δ`, both individually invalid. Independent coefficients are what rules this out. -/
theorem same_coefficient_cancels (es : List Entry) (z : Nat) (hz : z < ell) (hne : es ≠ [])
    (hd : ∀ e ∈ es, Decodable e) (hsum : (es.map err).sum = 0) :
    verifierVerify es (List.replicate es.length z) = true := by
  rw [batch_error_terms es _ (by simp) (by intro x hx; rw [List.eq_of_mem_replicate hx]; exact hz)]
  exact ⟨hne, hd, by rw [errSum_replicate, hsum, mul_zero]⟩

/-- the proved counterexample for the shared-coefficient variant: keys `5•B`, `7•B`, commitments
    `11•B`, `13•B`, challenges 3 and 4, responses off by `+1` and `−1`. Both entries fail
    `Key.Verify`; with one shared coefficient the batch accepts, with two different ones it
    rejects. -/
theorem shared_coefficient_counterexample :
    let e₁ : Entry := { A := Pt.dl 5, sigLen := 64, R := Pt.dl 11, s := 11 + 3 * 5 + 1, c := 3 }
    let e₂ : Entry := { A := Pt.dl 7, sigLen := 64, R := Pt.dl 13, s := 13 + 4 * 7 - 1, c := 4 }
    single e₁ = false ∧ single e₂ = false ∧
    verifierVerify [e₁, e₂] [123456789, 123456789] = true ∧
    verifierVerify [e₁, e₂] [123456789, 987654321] = false := by
  decide

/-! ## `BatchVerify` (the exported entry point) -/

/-- `BatchVerify` refuses empty input, slices of different lengths and nil entries; a single pair
    goes through `Key.Verify`; anything else through the verifier. -/
theorem batchVerify_cases (nk ns : Nat) (es : List Entry) (zs : List Nat) :
    (nk = 0 ∨ nk ≠ ns → batchVerify nk ns es zs = false) ∧
    ((∃ e ∈ es, e.keyNil = true ∨ e.sigNil = true) → batchVerify nk ns es zs = false) ∧
    (∀ e, nk ≠ 0 → nk = ns → e.keyNil = false → e.sigNil = false →
      batchVerify nk ns [e] zs = single e) := by
  refine ⟨?_, ?_, ?_⟩
  · intro h
    unfold batchVerify
    rw [if_pos h]
  · rintro ⟨e, he, hn⟩
    unfold batchVerify
    by_cases h : nk = 0 ∨ nk ≠ ns
    · rw [if_pos h]
    · rw [if_neg h, if_pos (List.any_eq_true.2 ⟨e, he, Bool.or_eq_true_iff.2 hn⟩)]
  · intro e h0 hns hk hs
    unfold batchVerify
    rw [if_neg (not_or.2 ⟨h0, not_not.2 hns⟩)]
    simp [hk, hs, single]

/- an honest two-entry batch is accepted, whatever the coefficients -/
example :
    let e₁ : Entry := { A := Pt.dl 5, sigLen := 64, R := Pt.dl 11, s := 11 + 3 * 5, c := 3 }
    let e₂ : Entry := { A := Pt.dl 7, sigLen := 64, R := Pt.dl 13, s := 13 + 4 * 7, c := 4 }
    single e₁ = true ∧ single e₂ = true ∧ verifierVerify [e₁, e₂] [17, 2 ^ 128 - 1] = true ∧
    verifierVerify [] [] = false ∧ verifierVerify [{ e₁ with sigLen := 63 }, e₂] [17, 19] = false := by
  decide

end Mixin.C02Batch
