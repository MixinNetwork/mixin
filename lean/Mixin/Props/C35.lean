import Mixin.Facts.ExpectedC35
import Mixin.Model.Topology
import Mixin.Proofs.Basics
/-!
# C35 — local topology order is a strictly increasing unique cursor

Theorems about `Mixin.Model.Topology` (model of `storage/badger_topology.go`, the topology
records written by `WriteSnapshot`, and the counter of `kernel/topology.go`), for every history of
genesis-style writes (while no node runs), node starts, `TopoWrite`s — including writes that
panic on the "snapshot duplication" assertion —, stops/reopens and queries.
-/
namespace Mixin.C35
open Mixin.Topology

def Sorted (t : List (Nat × Hash)) : Prop := t.Pairwise (fun a b => a.1 < b.1)

/-- the invariant of the two index key spaces and the in-memory counter -/
structure Inv (s : S) : Prop where
  sorted : Sorted s.topo
  fwd : ∀ o h, (o, h) ∈ s.topo → lookupRev h s.rev = some o
  bwd : ∀ h o, lookupRev h s.rev = some o → (o, h) ∈ s.topo
  seqOk : ∀ n, s.seq = some n → ∀ e ∈ s.topo, e.1 ≤ n

/-- `raw` (a write that does not go through the node: genesis load) only while no node runs -/
def okOp (s : S) : Op → Prop
  | .raw _ _ => s.seq = none
  | _ => True

def valid : S → List Op → Prop
  | _, [] => True
  | s, op :: ops => okOp s op ∧ valid (step s op).1 ops

theorem mem_insertTopo (o : Nat) (h : Hash) (t : List (Nat × Hash)) (e : Nat × Hash) :
    e ∈ insertTopo o h t ↔ e = (o, h) ∨ e ∈ t := by
  induction t with
  | nil => simp [insertTopo]
  | cons x xs ih =>
    rw [insertTopo]
    split
    · exact List.mem_cons
    · rw [List.mem_cons, ih, List.mem_cons, or_left_comm]

theorem sorted_insertTopo (o : Nat) (h : Hash) (t : List (Nat × Hash)) (hs : Sorted t)
    (hne : ∀ e ∈ t, e.1 ≠ o) : Sorted (insertTopo o h t) := by
  induction t with
  | nil => simp [insertTopo, Sorted]
  | cons x xs ih =>
    have hx := List.pairwise_cons.mp hs
    rw [insertTopo]
    by_cases hlt : o < x.1
    · rw [if_pos hlt]
      exact List.pairwise_cons.mpr
        ⟨fun e he => (List.mem_cons.mp he).elim (· ▸ hlt) fun he => Nat.lt_trans hlt (hx.1 e he), hs⟩
    · rw [if_neg hlt]
      have hxo : x.1 < o := Nat.lt_of_le_of_ne (Nat.le_of_not_lt hlt) (hne x List.mem_cons_self)
      exact List.pairwise_cons.mpr ⟨fun e he => ((mem_insertTopo o h xs e).mp he).elim (· ▸ hxo) (hx.1 e),
        ih hx.2 fun e he => hne e (List.mem_cons_of_mem _ he)⟩

theorem hasOrder_false (o : Nat) (t : List (Nat × Hash)) : hasOrder o t = false ↔ ∀ e ∈ t, e.1 ≠ o := by
  simp [hasOrder]

theorem hasHash_false (h : Hash) (r : List (Hash × Nat)) : hasHash h r = false ↔ lookupRev h r = none := by
  induction r with
  | nil => simp [hasHash, lookupRev]
  | cons x xs ih =>
    simp only [hasHash, List.any_cons, lookupRev] at ih ⊢
    by_cases hx : x.1 = h
    · simp [hx]
    · simp [hx, ih]

theorem lookupTopo_of_mem (t : List (Nat × Hash)) (hs : Sorted t) (o : Nat) (h : Hash)
    (hm : (o, h) ∈ t) : lookupTopo o t = some h := by
  induction t with
  | nil => simp at hm
  | cons x xs ih =>
    have hx := List.pairwise_cons.mp hs
    rw [lookupTopo]
    rcases List.mem_cons.mp hm with rfl | he
    · exact if_pos rfl
    · rw [if_neg (Nat.ne_of_lt (hx.1 _ he)), ih hx.2 he]

theorem lookupTopo_mem (t : List (Nat × Hash)) (o : Nat) (h : Hash) (hl : lookupTopo o t = some h) :
    (o, h) ∈ t := by
  induction t with
  | nil => simp [lookupTopo] at hl
  | cons x xs ih =>
    simp only [lookupTopo] at hl
    split at hl
    · next hx => cases hl; rw [← hx]; simp
    · exact List.mem_cons_of_mem _ (ih hl)

theorem lastOrder_concat (t : List (Nat × Hash)) (e : Nat × Hash) : lastOrder (t ++ [e]) = e.1 := by
  induction t with
  | nil => rfl
  | cons x xs ih =>
    cases xs with
    | nil => rfl
    | cons y ys => exact ih

theorem lastOrder_max (t : List (Nat × Hash)) (hs : Sorted t) : ∀ e ∈ t, e.1 ≤ lastOrder t := by
  rcases List.eq_nil_or_concat t with rfl | ⟨ys, l, rfl⟩
  · nofun
  · rw [List.concat_eq_append, lastOrder_concat] at *
    exact fun e he => (pairwise_getLast hs List.getLast?_concat e he).elim (fun h => h ▸ Nat.le_refl _) Nat.le_of_lt

theorem lastOrder_mem (t : List (Nat × Hash)) (hne : t ≠ []) : ∃ e ∈ t, e.1 = lastOrder t := by
  rcases List.eq_nil_or_concat t with rfl | ⟨ys, l, rfl⟩
  · exact absurd rfl hne
  · rw [List.concat_eq_append, lastOrder_concat]
    exact ⟨l, List.mem_append_right _ List.mem_cons_self, rfl⟩

theorem inv_empty : Inv empty :=
  ⟨List.Pairwise.nil, nofun, nofun, nofun⟩

theorem writeSnapshot_some {s s' : S} {o : Nat} {h : Hash} (hw : writeSnapshot s o h = some s') :
    hasHash h s.rev = false ∧ hasOrder o s.topo = false ∧
      s' = { s with topo := insertTopo o h s.topo, rev := (h, o) :: s.rev } := by
  unfold writeSnapshot at hw
  by_cases h1 : hasHash h s.rev = true
  · rw [if_pos h1] at hw; cases hw
  by_cases h2 : hasOrder o s.topo = true
  · rw [if_neg h1, if_pos h2] at hw; cases hw
  rw [if_neg h1, if_neg h2] at hw
  exact ⟨Bool.eq_false_iff.mpr h1, Bool.eq_false_iff.mpr h2, (Option.some.inj hw).symm⟩

theorem inv_writeSnapshot {s s' : S} {o : Nat} {h : Hash} (hI : Inv s)
    (hw : writeSnapshot s o h = some s')
    (hseq : ∀ n, s.seq = some n → o ≤ n) : Inv s' ∧ s'.seq = s.seq ∧
      (∀ e, e ∈ s'.topo ↔ e = (o, h) ∨ e ∈ s.topo) := by
  obtain ⟨h1, h2, rfl⟩ := writeSnapshot_some hw
  rw [hasHash_false] at h1
  rw [hasOrder_false] at h2
  refine ⟨⟨sorted_insertTopo o h s.topo hI.sorted h2, ?_, ?_, ?_⟩, rfl, mem_insertTopo o h s.topo⟩
  · intro o' h' hm
    rcases (mem_insertTopo o h s.topo (o', h')).mp hm with he | he
    · cases he; simp [lookupRev]
    · have := hI.fwd o' h' he
      have hne : h ≠ h' := by intro hc; subst hc; rw [h1] at this; cases this
      simp [lookupRev, hne, this]
  · intro h' o' hl
    simp only [lookupRev] at hl
    split at hl
    · next heq => cases hl; subst heq; exact (mem_insertTopo o h s.topo _).mpr (Or.inl rfl)
    · exact (mem_insertTopo o h s.topo _).mpr (Or.inr (hI.bwd h' o' hl))
  · intro n hn e he
    rcases (mem_insertTopo o h s.topo e).mp he with he | he
    · subst he; exact hseq n hn
    · exact hI.seqOk n hn e he

theorem Inv.with_seq {s : S} (hI : Inv s) (q : Option Nat) (hq : ∀ n, q = some n → ∀ e ∈ s.topo, e.1 ≤ n) :
    Inv { s with seq := q } :=
  ⟨hI.sorted, hI.fwd, hI.bwd, hq⟩

theorem Inv.succ_seq {s : S} (hI : Inv s) {n : Nat} (hs : s.seq = some n) : Inv { s with seq := some (n + 1) } :=
  hI.with_seq _ fun m hm e he => by cases hm; exact Nat.le_succ_of_le (hI.seqOk n hs e he)

theorem inv_step_mem (s : S) (op : Op) (hI : Inv s) (hok : okOp s op) :
    Inv (step s op).1 ∧ ∀ e ∈ s.topo, e ∈ (step s op).1.topo := by
  have same : Inv s ∧ ∀ e ∈ s.topo, e ∈ s.topo := ⟨hI, fun _ he => he⟩
  cases op with
  | raw o h =>
    simp only [step]
    cases hw : writeSnapshot s o h with
    | none => exact same
    | some s' =>
      have := inv_writeSnapshot hI hw (fun n hn => by rw [show s.seq = none from hok] at hn; cases hn)
      exact ⟨this.1, fun e he => (this.2.2 e).mpr (Or.inr he)⟩
  | boot =>
    simp only [step]
    split
    · exact same
    · exact ⟨hI.with_seq _ (fun n hn => by cases hn; exact lastOrder_max s.topo hI.sorted), fun _ he => he⟩
  | write h =>
    simp only [step]
    cases hs : s.seq with
    | none => exact same
    | some n =>
      dsimp only
      cases hw : writeSnapshot { s with seq := some (n + 1) } (n + 1) h with
      | none => exact ⟨hI.succ_seq hs, fun _ he => he⟩
      | some s' =>
        have := inv_writeSnapshot (hI.succ_seq hs) hw (fun m hm => by cases hm; exact Nat.le_refl _)
        exact ⟨this.1, fun e he => (this.2.2 e).mpr (Or.inr he)⟩
  | stop => exact ⟨hI.with_seq none (fun n hn => by cases hn), fun _ he => he⟩
  -- the queries return the state as it is on every branch
  | since _ _ | lookup _ | last | nsince _ _ | tick =>
    simp only [step]
    repeat' split
    all_goals exact same

theorem inv_step (s : S) (op : Op) (hI : Inv s) (hok : okOp s op) : Inv (step s op).1 :=
  (inv_step_mem s op hI hok).1

theorem inv_final (ops : List Op) : ∀ s, Inv s → valid s ops → Inv (final s ops) := by
  induction ops with
  | nil => intro s hI _; exact hI
  | cons op ops ih =>
    intro s hI hv
    exact ih _ (inv_step s op hI hv.1) hv.2

/-- a `TopoWrite` that returns order `o`: `o` exceeds every stored order (in particular every
    order assigned before, in this or an earlier run of the node) and the snapshot is stored
    under exactly that order -/
theorem write_order_fresh (s : S) (h : Hash) (o : Nat) (hI : Inv s)
    (hw : (step s (.write h)).2 = .order o) :
    (∀ e ∈ s.topo, e.1 < o) ∧ (o, h) ∈ (step s (.write h)).1.topo ∧
    (step s (.write h)).1.seq = some o := by
  simp only [step] at hw ⊢
  cases hs : s.seq with
  | none => simp [hs] at hw
  | some n =>
    simp only [hs] at hw ⊢
    cases hws : writeSnapshot { s with seq := some (n + 1) } (n + 1) h with
    | none => simp [hws] at hw
    | some s' =>
      simp only [hws] at hw ⊢
      cases hw
      have := inv_writeSnapshot (hI.succ_seq hs) hws (fun m hm => by cases hm; exact Nat.le_refl _)
      exact ⟨fun e he => Nat.lt_succ_of_le (hI.seqOk n hs e he), (this.2.2 _).mpr (Or.inl rfl), this.2.1⟩

/-- the orders handed out by the successful `TopoWrite`s of a history, in history order -/
def writeOrders : S → List Op → List Nat
  | _, [] => []
  | s, op :: ops =>
    match op, (step s op).2 with
    | .write _, .order o => o :: writeOrders (step s op).1 ops
    | _, _ => writeOrders (step s op).1 ops

theorem writeOrders_above (ops : List Op) : ∀ s, Inv s → valid s ops →
    (∀ o ∈ writeOrders s ops, ∀ e ∈ s.topo, e.1 < o) ∧ (writeOrders s ops).Pairwise (· < ·) := by
  induction ops with
  | nil => intro s _ _; simp [writeOrders]
  | cons op ops ih =>
    intro s hI hv
    obtain ⟨hI', hmono⟩ := inv_step_mem s op hI hv.1
    have ih' := ih _ hI' hv.2
    have habove : ∀ o ∈ writeOrders (step s op).1 ops, ∀ e ∈ s.topo, e.1 < o :=
      fun o ho e he => ih'.1 o ho e (hmono e he)
    unfold writeOrders
    split
    · next h o hout =>
      have hf := write_order_fresh s h o hI hout
      refine ⟨?_, List.pairwise_cons.mpr ⟨fun o' ho' => ih'.1 o' ho' (o, h) hf.2.1, ih'.2⟩⟩
      intro o' ho' e he
      rcases List.mem_cons.mp ho' with rfl | ho'
      · exact hf.1 e he
      · exact habove o' ho' e he
    · exact ⟨habove, ih'.2⟩

/-- After every valid history from the empty store, each stored
    snapshot has exactly one position and each position one snapshot (the index is strictly
    sorted by order), and the positions assigned by the node over the whole history — across
    stops, restarts and panicking writes — increase strictly. -/
theorem orders_unique_increasing (ops : List Op) (hv : valid empty ops) :
    Sorted (final empty ops).topo ∧
    (∀ o o' h, (o, h) ∈ (final empty ops).topo → (o', h) ∈ (final empty ops).topo → o = o') ∧
    (∀ o h h', (o, h) ∈ (final empty ops).topo → (o, h') ∈ (final empty ops).topo → h = h') ∧
    (writeOrders empty ops).Pairwise (· < ·) := by
  have hI := inv_final ops empty inv_empty hv
  refine ⟨hI.sorted, ?_, ?_, (writeOrders_above ops empty inv_empty hv).2⟩
  · exact fun o o' h h1 h2 => Option.some.inj ((hI.fwd o h h1).symm.trans (hI.fwd o' h h2))
  · exact fun o h h' h1 h2 => Option.some.inj
      ((lookupTopo_of_mem _ hI.sorted o h h1).symm.trans (lookupTopo_of_mem _ hI.sorted o h' h2))

example : valid empty [.raw 0 1, .raw 1 2, .boot, .write 3, .write 3, .stop, .boot, .write 4] := by
  simp [valid, okOp, step, writeSnapshot, empty, hasHash, hasOrder, insertTopo]

example : writeOrders empty [.raw 0 1, .raw 1 2, .boot, .write 3, .write 3, .stop, .boot, .write 4]
    = [2, 3] := by decide

theorem dropWhile_eq_filter (t : List (Nat × Hash)) (hs : Sorted t) (off : Nat) :
    t.dropWhile (fun e => e.1 < off) = t.filter (fun e => off ≤ e.1) := by
  induction t with
  | nil => rfl
  | cons x xs ih =>
    have hx := List.pairwise_cons.mp hs
    by_cases hlt : x.1 < off
    · rw [List.dropWhile_cons_of_pos (by simpa using hlt), List.filter_cons_of_neg (by simpa using hlt), ih hx.2]
    · -- from the first entry at or above `off` on, every entry is
      have hge := Nat.le_of_not_lt hlt
      rw [List.dropWhile_cons_of_neg (by simpa using hlt), List.filter_eq_self.mpr]
      intro e he
      rcases List.mem_cons.mp he with rfl | he
      · exact decide_eq_true hge
      · exact decide_eq_true (Nat.le_trans hge (Nat.le_of_lt (hx.1 e he)))

/-- A listing from cursor `off` with `count ≤ 500` is the first
    `min count (…)` stored entries with order `≥ off`, in strictly increasing order, each with
    its own order and the payload hash stored under it (which the reverse index maps back). -/
theorem list_sorted_from_cursor (s : S) (hI : Inv s) (off count : Nat) (hc : count ≤ maxCount) :
    ∃ l, (step s (.since off count)).2 = .list l ∧
      l = (s.topo.filter (fun e => off ≤ e.1)).take count ∧
      Sorted l ∧
      l.length = min count (s.topo.filter (fun e => off ≤ e.1)).length ∧
      ∀ e ∈ l, off ≤ e.1 ∧ e ∈ s.topo ∧ lookupRev e.2 s.rev = some e.1 := by
  refine ⟨_, ?_, rfl, hI.sorted.sublist ((List.take_sublist _ _).trans List.filter_sublist),
    List.length_take, fun e he => ?_⟩
  · simp only [step, if_neg (Nat.not_lt.mpr hc), readSince, dropWhile_eq_filter s.topo hI.sorted]
  · have hm := List.mem_filter.mp (List.mem_of_mem_take he)
    exact ⟨of_decide_eq_true hm.2, hm.1, hI.fwd e.1 e.2 hm.1⟩

example : (step ⟨[(0, 7), (1, 8), (3, 9), (4, 5)], [(5, 4), (9, 3), (8, 1), (7, 0)], none⟩ (.since 1 2)).2
    = .list [(1, 8), (3, 9)] := by decide

/-- More than 500 entries are never asked for successfully, and a listing never
    has more entries than asked for -/
theorem count_limit (s : S) (off count : Nat) :
    (count > maxCount → (step s (.since off count)).2 = .err) ∧
    (count ≤ maxCount → ∃ l, (step s (.since off count)).2 = .list l ∧ l.length ≤ count) := by
  constructor
  · intro h; simp [step, h]
  · intro h
    have : ¬ count > maxCount := by omega
    refine ⟨readSince s.topo off count, ?_, ?_⟩
    · simp [step, this]
    · simp [readSince, List.length_take]; omega

example : (step empty (.since 0 501)).2 = .err := by decide

/-- Looking a snapshot up by hash returns exactly the position under which it
    is stored and listed, with that snapshot; an unknown hash is reported absent; the reverse
    index never dangles. -/
theorem lookup_agrees (s : S) (hI : Inv s) (h : Hash) :
    (∀ o, (o, h) ∈ s.topo → (step s (.lookup h)).2 = .found (some (o, h))) ∧
    ((∀ o, (o, h) ∉ s.topo) → (step s (.lookup h)).2 = .found none) ∧
    (step s (.lookup h)).2 ≠ .err := by
  refine ⟨?_, ?_, ?_⟩
  · intro o hm
    simp [step, hI.fwd o h hm, lookupTopo_of_mem _ hI.sorted o h hm]
  · intro hno
    cases hl : lookupRev h s.rev with
    | none => simp [step, hl]
    | some o => exact absurd (hI.bwd h o hl) (hno o)
  · cases hl : lookupRev h s.rev with
    | none => simp [step, hl]
    | some o =>
      have := lookupTopo_of_mem _ hI.sorted o h (hI.bwd h o hl)
      simp [step, hl, this]

/-- Starting the node on a non-empty store sets the counter to the largest
    stored order; the next write of a new snapshot gets that order plus one, which no stored
    snapshot has — no order is reused after a restart. -/
theorem restart_continues (s : S) (hI : Inv s) (hne : s.topo ≠ []) (h : Hash)
    (hnew : hasHash h s.rev = false) :
    (step s .boot).1.seq = some (lastOrder s.topo) ∧
    (∃ e ∈ s.topo, e.1 = lastOrder s.topo) ∧
    (∀ e ∈ s.topo, e.1 ≤ lastOrder s.topo) ∧
    (step (step s .boot).1 (.write h)).2 = .order (lastOrder s.topo + 1) := by
  have hemp : s.topo.isEmpty = false := List.isEmpty_eq_false_iff.mpr hne
  have hmax := lastOrder_max s.topo hI.sorted
  refine ⟨by simp [step, hemp], lastOrder_mem s.topo hne, hmax, ?_⟩
  have hord : hasOrder (lastOrder s.topo + 1) s.topo = false :=
    (hasOrder_false _ _).mpr fun e he => Nat.ne_of_lt (Nat.lt_succ_of_le (hmax e he))
  simp [step, hemp, writeSnapshot, hnew, hord]

example : (step (step (step ⟨[(0, 7), (5, 8)], [(8, 5), (7, 0)], some 9⟩ .stop).1 .boot).1 (.write 3)).2
    = .order 6 := by decide

/-- A statistics tick changes neither the counter nor the store; it
    reports the counter -/
theorem tick_preserves_counter (s : S) :
    (step s .tick).1 = s ∧ ∀ n, s.seq = some n → (step s .tick).2 = .order n := by
  cases hs : s.seq <;> simp [step, hs]

/-- The node-level cursor listing (p2p sync) of a running node
    is exactly the storage listing — inclusive cursor, also at the tip — so
    `list_sorted_from_cursor` applies to it -/
theorem node_listing_is_storage_listing (s : S) (n off count : Nat) (hs : s.seq = some n) :
    (step s (.nsince off count)).2 = (step s (.since off count)).2 ∧ (step s (.nsince off count)).1 = s := by
  by_cases hc : count > maxCount <;> simp [step, hs, hc]

-- listing from the tip returns the tip (the cursor is inclusive)
example : (step ⟨[(0, 7), (1, 8)], [(8, 1), (7, 0)], some 1⟩ (.nsince 1 10)).2 = .list [(1, 8)] := by decide

-- writes, a tick, and another write: orders keep increasing
example : writeOrders empty [.raw 0 1, .boot, .write 2, .tick, .write 3] = [1, 2] := by decide

end Mixin.C35
