import Mixin.Props.C01
/-!
  C02 — spending requires threshold signatures over the payload hash.

  `O.verify k s` stands for `k.Verify(payloadHash, s)` and `O.aggVerify keys signers sig` for
  `AggregateVerify(sig, keys, signers, payloadHash) == nil`, both answered by the real crypto in
  the correspondence campaign. What is proved is the decision logic: which keys, which signatures,
  which offsets. Unforgeability and the soundness of the batch equation are not theorems (the
  batch equation is compared with the conjunction of single verifications by the harness, and the
  "changing any byte" clause is exercised on the real crypto by a tamper stream).
-/
namespace Mixin.C02
open Mixin.Validate Mixin.C01

theorem accepted_full {L O tx fork i o} (h : validate L O tx fork = .accept i o)
    (ht1 : txType tx ≠ ttMint) (ht2 : txType tx ≠ ttDeposit) :
    ∀ k inp, tx.inputs[k]? = some inp → ∃ u ks, L.utxo inp.hash inp.index = some u ∧
      validateUTXO k u tx (txType tx) (offsetAt L tx.inputs k) = .ok ks ∧ ∀ e ∈ ks,
        match tx.agg with
        | some (signers, sig) => O.aggVerify (allKeysOf L tx.inputs) signers sig = true
        | none => ∃ s, e.2 = some s ∧ O.verify e.1 s = true := by
  obtain ⟨_, _, f, hin, _, _, _⟩ := validateM_ok (accept_iff.1 h)
  obtain ⟨a, hl, _, _⟩ := inputs_full hin ht1 ht2
  obtain ⟨hkeys, _, hnth⟩ := loopSpec_keys _ _ _ _ (loop_full _ _ _ _ hl)
  obtain ⟨_, _, hfin⟩ := validateInputs_full_ok hin hl
  rw [hkeys.trans (List.nil_append _)] at hfin
  intro k inp hk
  obtain ⟨u, ks, hu, hv, hsub⟩ := hnth k inp hk
  simp only [Nat.zero_add, List.length_nil] at hv
  refine ⟨u, ks, hu, hv, fun e he => ?_⟩
  rcases hfin with ⟨hnone, _⟩ | ⟨_, hsigs⟩
  · rw [hnone] at hsub; cases hsub e he
  · cases hagg : tx.agg with
    | none => rw [hagg] at hsigs; exact hsigs e (hsub e he)
    | some v => rw [hagg] at hsigs; exact hsigs

/-- Accepted, no aggregate signature: every input resolves, and an input
    spending a script or node-remove typed output, at position `k`, has its own signature map
    `sigs[k]`, every index of which addresses one of the spent output's own keys, at least
    `threshold` entries, and every listed signature verifies for the addressed key. -/
theorem auth_sound_maps {L O tx fork i o} (h : validate L O tx fork = .accept i o)
    (hagg : tx.agg = none) (ht1 : txType tx ≠ ttMint) (ht2 : txType tx ≠ ttDeposit) :
    ∀ (k : Nat) (inp : Input), tx.inputs[k]? = some inp → ∃ u, L.utxo inp.hash inp.index = some u ∧
      (IsOrdinaryUtxo u → ∃ m : List (Nat × Id), (tx.sigs.getD [])[k]? = some m ∧
        scriptFormatOk u.script = true ∧ scriptThreshold u.script ≤ m.length ∧
        ∀ p ∈ m, p.1 < u.keys.length ∧ O.verify (u.keys.getD p.1 0) p.2 = true) := by
  intro k inp hk
  obtain ⟨u, ks, hu, hv, hver⟩ := accepted_full h ht1 ht2 k inp hk
  rw [hagg] at hver
  refine ⟨u, hu, fun hord => ?_⟩
  obtain ⟨m, hm, hidx, hfmt, hth, hks⟩ := validateUTXO_maps hv hord hagg
  refine ⟨m, hm, hfmt, hth, fun p hp => ⟨hidx p hp, ?_⟩⟩
  obtain ⟨s, hs, hvs⟩ := hver _ (by rw [hks]; exact List.mem_map.2 ⟨p, hp, rfl⟩)
  cases hs
  exact hvs

/-- the distinct-signers reading: with the map indexes unique (a decoded map), there is a
    duplicate-free set of key indexes of size ≥ threshold, each with a valid signature -/
theorem auth_sound_maps_distinct {L O tx fork i o} (h : validate L O tx fork = .accept i o)
    (hagg : tx.agg = none) (ht1 : txType tx ≠ ttMint) (ht2 : txType tx ≠ ttDeposit)
    (hwf : ∀ m ∈ tx.sigs.getD [], (m.map (·.1)).Nodup) :
    ∀ (k : Nat) (inp : Input), tx.inputs[k]? = some inp → ∃ u, L.utxo inp.hash inp.index = some u ∧
      (IsOrdinaryUtxo u → ∃ S : List Nat, S.Nodup ∧ scriptThreshold u.script ≤ S.length ∧
        ∀ j ∈ S, j < u.keys.length ∧ ∃ s, O.verify (u.keys.getD j 0) s = true) := by
  intro k inp hk
  obtain ⟨u, hu, hrest⟩ := auth_sound_maps h hagg ht1 ht2 k inp hk
  refine ⟨u, hu, fun hord => ?_⟩
  obtain ⟨m, hm, _, hth, hall⟩ := hrest hord
  refine ⟨m.map (·.1), hwf m (List.mem_of_getElem? hm), by simpa using hth, ?_⟩
  intro j hj
  obtain ⟨p, hp, rfl⟩ := List.mem_map.1 hj
  exact ⟨(hall p hp).1, p.2, (hall p hp).2⟩

/-- Accepted with an aggregate signature: the signer list is strictly increasing; an input at
    position `k` that spends a script or node-remove output counts at least `threshold` signers inside its
    own slice `[offset_k, offset_k + |keys_k|)` of the concatenated key list, where `offset_k` is
    the total number of keys of the inputs before it; and as soon as one such input counts a
    signer, the aggregate signature verifies over the concatenation of all inputs' keys. -/
theorem auth_sound_agg {L O tx fork i o signers sig} (h : validate L O tx fork = .accept i o)
    (hagg : tx.agg = some (signers, sig)) (ht1 : txType tx ≠ ttMint) (ht2 : txType tx ≠ ttDeposit) :
    ∀ (k : Nat) (inp : Input), tx.inputs[k]? = some inp → ∃ u, L.utxo inp.hash inp.index = some u ∧
      (IsOrdinaryUtxo u →
        signersOk signers = true ∧ scriptFormatOk u.script = true ∧
        scriptThreshold u.script ≤ (signers.filter (inRange (offsetAt L tx.inputs k) u.keys.length)).length ∧
        ((signers.filter (inRange (offsetAt L tx.inputs k) u.keys.length)) ≠ [] →
          O.aggVerify (allKeysOf L tx.inputs) signers sig = true)) := by
  intro k inp hk
  obtain ⟨u, ks, hu, hv, hver⟩ := accepted_full h ht1 ht2 k inp hk
  rw [hagg] at hver
  refine ⟨u, hu, fun hord => ?_⟩
  obtain ⟨hso, hfmt, hth, hks⟩ := validateUTXO_agg hv hord hagg
  have hlen := aggCollect_length u.keys (offsetAt L tx.inputs k) signers none (by
    simp [signersOk] at hso; exact hso.2)
  refine ⟨hso, hfmt, by omega, fun hne => ?_⟩
  -- a counted signer is a collected key
  obtain ⟨key, hkey⟩ := List.exists_mem_of_length_pos (hlen ▸ List.length_pos_iff.2 hne)
  exact hver (key, none) (by rw [hks]; exact List.mem_map_of_mem hkey)

/-- An input of an accepted transaction that spends a script or node-remove output and none of whose
    listed signatures is valid (maps), or none of whose keys is among the signers (aggregate), has
    script threshold 0. -/
theorem zero_threshold_only_exemption {L O tx fork i o} (h : validate L O tx fork = .accept i o)
    (ht1 : txType tx ≠ ttMint) (ht2 : txType tx ≠ ttDeposit)
    {k : Nat} {inp : Input} {u : Utxo} (hk : tx.inputs[k]? = some inp) (hu : L.utxo inp.hash inp.index = some u)
    (hord : IsOrdinaryUtxo u)
    (hnone : match tx.agg with
      | none => ∀ m : List (Nat × Id), (tx.sigs.getD [])[k]? = some m → ∀ p ∈ m, O.verify (u.keys.getD p.1 0) p.2 = false
      | some (signers, _) => signers.filter (inRange (offsetAt L tx.inputs k) u.keys.length) = []) :
    scriptThreshold u.script = 0 := by
  cases hagg : tx.agg with
  | none =>
    rw [hagg] at hnone
    obtain ⟨u', hu', hrest⟩ := auth_sound_maps h hagg ht1 ht2 k inp hk
    rw [hu] at hu'; cases hu'
    obtain ⟨m, hm, _, hth, hall⟩ := hrest hord
    cases m with
    | nil => simpa using hth
    | cons p ps =>
      have h1 := (hall p (by simp)).2
      have h2 := hnone _ hm p (by simp)
      rw [h1] at h2; cases h2
  | some v =>
    obtain ⟨signers, sig⟩ := v
    rw [hagg] at hnone
    obtain ⟨u', hu', hrest⟩ := auth_sound_agg h hagg ht1 ht2 k inp hk
    rw [hu] at hu'; cases hu'
    obtain ⟨_, _, hth, _⟩ := hrest hord
    simp only at hnone
    rw [hnone] at hth
    simpa using hth

/-- Take an accepted transaction and any oracle `O'` (it may differ
    from `O` anywhere) that refuses one signature the accepted run collected — a pair
    `(key, signature)` of some input's map, or the aggregate query. Then validation under `O'`
    rejects: every collected signature is load-bearing. -/
theorem auth_depends_only_on_used {L O O' tx fork i o a}
    (h : validate L O tx fork = .accept i o)
    (hl : inputsLoop L tx (txType tx) fork 0 tx.inputs {} = .ok (.full a))
    (hbad : match tx.agg with
      | none => ∃ k s, (k, some s) ∈ a.keySigs ∧ O'.verify k s = false
      | some (signers, sig) => a.keySigs ≠ [] ∧ O'.aggVerify a.allKeys signers sig = false) :
    validate L O' tx fork = .reject := by
  have hM := accept_iff.1 h
  unfold validateM at hM
  simp only [bind_ok] at hM
  obtain ⟨_, hs, _, hp, _, href, ⟨f, j⟩, hin, _⟩ := hM
  have hne : a.keySigs ≠ [] := by
    cases hagg : tx.agg with
    | none => rw [hagg] at hbad; obtain ⟨k, s, hm, _⟩ := hbad; exact List.ne_nil_of_mem hm
    | some v => rw [hagg] at hbad; exact hbad.1
  -- the accepted run did not take the `len(keySigs) < len(Inputs)` exit
  have hlen := ((validateInputs_full_ok hin hl).2.2.resolve_left fun h0 => hne h0.1).1
  have hrej : validateInputs L O' tx (txType tx) fork = rej := by
    unfold validateInputs
    rw [hl]
    show (if _ then _ else if _ then _ else _) = rej
    rw [if_neg (by simp [hne]), if_neg (Nat.not_lt.2 hlen)]
    cases hagg : tx.agg with
    | none =>
      rw [hagg] at hbad
      obtain ⟨k, s, hm, hv⟩ := hbad
      exact if_neg fun hall => by simpa [hv] using List.all_eq_true.1 hall _ hm
    | some v => rw [hagg] at hbad; exact if_neg (by simp [hbad.2])
  unfold validate validateM
  simp only [hs, hp, href, hrej, bind, Except.bind, rej]

/-! ### Non-vacuity: 2-of-3 by signature maps and 2-of-3 by aggregate signature -/
namespace Example

def thr (n : Nat) : List Nat := [255, 254, n]

def ledger : Ledger :=
  { utxos := [
      { hash := 10, index := 0, type := 0, asset := 7, amount := 20, keys := [101, 102, 103], mask := 110, script := thr 2, lock := 0 },
      { hash := 11, index := 1, type := 0, asset := 7, amount := 10, keys := [104, 105, 106], mask := 111, script := thr 2, lock := 0 }] }

def out (amount key mask : Nat) : Output :=
  { type := 0, amount := amount, keys := [key], mask := mask, script := thr 1, withdrawal := false }

def tx0 : Tx :=
  { version := 5, asset := 7, references := [], extraLen := 0, extraId := 2, extra64 := 3, extraSpend := 0,
    inputs := [{ hash := 10, index := 0, genesis := false, deposit := none, mint := none },
               { hash := 11, index := 1, genesis := false, deposit := none, mint := none }],
    outputs := [out 30 120 130], sigs := none, agg := none, hash := 9, payloadSize := 300, cap := 1000 }

def oracle : Oracle :=
  { checkKey := fun k => 100 ≤ k && k < 200, verify := fun k s => s == k + 1000,
    -- the aggregate verifies for the concatenated key list and signers {0, 2} ∪ {3+1, 3+2}
    aggVerify := fun keys signers sig => keys == [101, 102, 103, 104, 105, 106] && signers == [0, 2, 4, 5] && sig == 77,
    claimSig := false, updParse := none, updSig := false, scalarOk := false, ghostEq := false }

def mapsTx : Tx := { tx0 with sigs := some [[(0, 1101), (2, 1103)], [(1, 1105), (2, 1106)]] }
def aggTx : Tx := { tx0 with agg := some ([0, 2, 4, 5], 77) }

example : validate ledger oracle mapsTx false = .accept 30 30 := by decide +kernel
example : validate ledger oracle aggTx false = .accept 30 30 := by decide +kernel
-- one signature short on the second input, a signature under the wrong index, a signer of the
-- first input counted for the second: rejected
example : validate ledger oracle { tx0 with sigs := some [[(0, 1101), (2, 1103)], [(1, 1105)]] } false = .reject := by decide +kernel
example : validate ledger oracle { tx0 with sigs := some [[(0, 1101), (2, 1103)], [(1, 1105), (0, 1106)]] } false = .reject := by decide +kernel
example : validate ledger { oracle with aggVerify := fun _ _ _ => true } { tx0 with agg := some ([0, 1, 2, 4], 77) } false = .reject := by decide +kernel
-- invalidating one used signature flips the decision
example : validate ledger { oracle with verify := fun k s => s == k + 1000 && k != 105 } mapsTx false = .reject := by decide +kernel

end Example
end Mixin.C02
