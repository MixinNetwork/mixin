import Mixin.Facts.ExpectedC23
import Mixin.Model.CacheQueue
import Mixin.Model.CacheKernel
/-!
# C23 — only queueing makes a cached transaction eligible for proposal

Theorems about `Mixin.Model.CacheQueue` (the model of `storage/badger_cache.go`), for every
state and every operation history. The specification-level counter of a hash `h` is
`cnt h s.queue`, the number of its unconsumed queueings (queue keys carrying `h`).
TTL expiry of cache entries is outside the model.
-/
namespace Mixin.C23
open Mixin.CacheQueue

theorem cnt_eq_count (h : Hash) (q : List QKey) : cnt h q = (q.map (·.2)).count h := by
  induction q with
  | nil => rfl
  | cons k r ih => rw [cnt, ih, List.map_cons, List.count_cons, Nat.add_comm]; simp only [beq_iff_eq]

theorem occ_eq_count (h : Hash) (l : List (Hash × Body)) : occ h l = (l.map (·.1)).count h := by
  induction l with
  | nil => rfl
  | cons e r ih => rw [occ, ih, List.map_cons, List.count_cons, Nat.add_comm]; simp only [beq_iff_eq]

theorem cnt_append (h : Hash) (a b : List QKey) : cnt h (a ++ b) = cnt h a + cnt h b := by
  simp only [cnt_eq_count, List.map_append, List.count_append]

theorem cnt_le_of_sublist (h : Hash) {a b : List QKey} (hs : a.Sublist b) : cnt h a ≤ cnt h b := by
  simp only [cnt_eq_count]
  exact (hs.map _).count_le h

theorem cnt_pos_of_mem (h : Hash) (ts : Nat) (q : List QKey) (hm : (ts, h) ∈ q) : 1 ≤ cnt h q := by
  rw [cnt_eq_count]
  exact List.count_pos_iff.mpr (List.mem_map.mpr ⟨_, hm, rfl⟩)

theorem cnt_delete_prefix (h : Hash) (a b : List QKey) :
    cnt h ((a ++ b).filter (fun k => k ∉ a)) + cnt h a ≤ cnt h (a ++ b) := by
  have h1 : a.filter (fun k => k ∉ a) = [] :=
    List.filter_eq_nil_iff.mpr fun k hk => by simpa using hk
  rw [List.filter_append, h1, List.nil_append, cnt_append]
  have := cnt_le_of_sublist h (List.filter_sublist (l := b) (p := fun k => k ∉ a))
  omega

theorem mem_insertKey_iff (k x : QKey) (q : List QKey) : x ∈ insertKey k q ↔ x = k ∨ x ∈ q := by
  fun_induction insertKey k q with
  | case1 => exact List.mem_cons
  | case2 => exact List.mem_cons
  | case3 xs =>
    exact ⟨.inr, fun h => h.elim (fun h => h ▸ List.mem_cons_self) id⟩
  | case4 y ys _ _ ih =>
    rw [List.mem_cons, ih, List.mem_cons, or_left_comm]

theorem cnt_insertKey_le (h : Hash) (k : QKey) (q : List QKey) :
    cnt h (insertKey k q) ≤ cnt h q + (if k.2 = h then 1 else 0) := by
  fun_induction insertKey k q with
  | case1 => exact Nat.le_of_eq (Nat.add_comm _ _)
  | case2 x xs => exact Nat.le_of_eq (Nat.add_comm _ _)
  | case3 xs => exact Nat.le_add_right _ _
  | case4 y ys _ _ ih =>
    simp only [cnt]; omega

theorem scan_nil (pl : List (Hash × Body)) (room : Nat) (seen : List Hash) :
    scan pl room seen [] = (0, []) := rfl

theorem scan_zero (pl : List (Hash × Body)) (seen : List Hash) (q : List QKey) :
    scan pl 0 seen q = (0, []) := by cases q <;> rfl

theorem scan_seen (pl : List (Hash × Body)) (r : Nat) (seen : List Hash) (k : QKey) (rest : List QKey)
    (hk : k.2 ∈ seen) :
    scan pl (r + 1) seen (k :: rest) =
      ((scan pl (r + 1) seen rest).1 + 1, (scan pl (r + 1) seen rest).2) := by
  simp [scan, hk]

theorem scan_some (pl : List (Hash × Body)) (r : Nat) (seen : List Hash) (k : QKey) (rest : List QKey)
    (v : Body) (hk : k.2 ∉ seen) (hl : lookup k.2 pl = some v) :
    scan pl (r + 1) seen (k :: rest) =
      ((scan pl r (k.2 :: seen) rest).1 + 1, (k.2, v) :: (scan pl r (k.2 :: seen) rest).2) := by
  simp [scan, hk, hl]

theorem scan_none (pl : List (Hash × Body)) (r : Nat) (seen : List Hash) (k : QKey) (rest : List QKey)
    (hk : k.2 ∉ seen) (hl : lookup k.2 pl = none) :
    scan pl (r + 1) seen (k :: rest) =
      ((scan pl (r + 1) (k.2 :: seen) rest).1 + 1, (scan pl (r + 1) (k.2 :: seen) rest).2) := by
  simp [scan, hk, hl]

theorem scan_consumed_le (pl : List (Hash × Body)) (q : List QKey) :
    ∀ (room : Nat) (seen : List Hash), (scan pl room seen q).1 ≤ q.length := by
  intro room seen
  fun_induction scan pl room seen q with
  | case1 => exact Nat.le_refl _
  | case2 => exact Nat.zero_le _
  | case3 _ _ _ _ _ _ ih => exact Nat.succ_le_succ ih
  | case4 _ _ _ _ _ _ _ _ ih => exact Nat.succ_le_succ ih
  | case5 _ _ _ _ _ _ _ ih => exact Nat.succ_le_succ ih

theorem scan_length_le (pl : List (Hash × Body)) (q : List QKey) (room : Nat) (seen : List Hash) :
    (scan pl room seen q).2.length ≤ room := by
  fun_induction scan pl room seen q with
  | case1 => exact Nat.zero_le _
  | case2 => exact Nat.zero_le _
  | case3 _ _ _ _ _ _ ih => exact ih
  | case4 _ _ _ _ _ _ _ _ ih => exact Nat.succ_le_succ ih
  | case5 _ _ _ _ _ _ _ ih => exact ih

theorem scan_sublist (pl : List (Hash × Body)) (room : Nat) (seen : List Hash) (q : List QKey) :
    ((scan pl room seen q).2.map (·.1)).Sublist ((q.take (scan pl room seen q).1).map (·.2)) := by
  fun_induction scan pl room seen q with
  | case1 => exact .slnil
  | case2 => exact .slnil
  | case3 _ _ _ _ _ _ ih => exact ih.cons _
  | case4 _ _ _ _ _ _ _ _ ih => exact ih.cons_cons _
  | case5 _ _ _ _ _ _ _ ih => exact ih.cons _

theorem scan_mem (pl : List (Hash × Body)) (q : List QKey) (room : Nat) (seen : List Hash)
    (e : Hash × Body) (he : e ∈ (scan pl room seen q).2) : e.1 ∉ seen ∧ lookup e.1 pl = some e.2 := by
  fun_induction scan pl room seen q with
  | case1 => nomatch he
  | case2 => nomatch he
  | case3 _ _ _ _ _ _ ih => exact ih he
  | case4 _ _ _ _ hk _ hl _ ih =>
    rcases List.mem_cons.mp he with rfl | he
    · exact ⟨hk, hl⟩
    · exact ⟨fun h => (ih he).1 (List.mem_cons_of_mem _ h), (ih he).2⟩
  | case5 _ _ _ _ _ _ _ ih => exact ⟨fun h => (ih he).1 (List.mem_cons_of_mem _ h), (ih he).2⟩

theorem scan_nodup (pl : List (Hash × Body)) (q : List QKey) (room : Nat) (seen : List Hash) :
    ((scan pl room seen q).2.map (·.1)).Nodup := by
  fun_induction scan pl room seen q with
  | case1 => exact .nil
  | case2 => exact .nil
  | case3 _ _ _ _ _ _ ih => exact ih
  | case4 seen k rest r _ _ _ _ ih =>
    refine List.nodup_cons.mpr ⟨fun hmem => ?_, ih⟩
    obtain ⟨e, he, hek⟩ := List.mem_map.mp hmem
    exact (scan_mem pl rest r (k.2 :: seen) e he).1 (hek ▸ List.mem_cons_self)
  | case5 _ _ _ _ _ _ _ ih => exact ih

theorem scan_occ_le_cnt (pl : List (Hash × Body)) (h : Hash) (q : List QKey) (room : Nat)
    (seen : List Hash) : occ h (scan pl room seen q).2 ≤ cnt h (q.take (scan pl room seen q).1) := by
  rw [occ_eq_count, cnt_eq_count]
  exact (scan_sublist pl room seen q).count_le h

theorem scan_complete (pl : List (Hash × Body)) (h : Hash) (v : Body) (hl : lookup h pl = some v)
    (q : List QKey) (room : Nat) (seen : List Hash) :
    q.length ≤ room → h ∉ seen → (∃ ts, (ts, h) ∈ q) → (h, v) ∈ (scan pl room seen q).2 := by
  -- a first key carrying another hash is passed over
  have skip : ∀ {k : QKey} {rest : List QKey} {seen : List Hash} {ts : Nat},
      (ts, h) ∈ k :: rest → h ∉ seen → k.2 ≠ h → (ts, h) ∈ rest ∧ h ∉ k.2 :: seen :=
    fun hm hns hkh => ⟨(List.mem_cons.mp hm).resolve_left fun e => hkh (e ▸ rfl),
      fun hc => (List.mem_cons.mp hc).elim (fun e => hkh e.symm) hns⟩
  fun_induction scan pl room seen q with
  | case1 => exact fun _ _ ⟨_, hm⟩ => nomatch hm
  | case2 => exact fun hlen => absurd hlen (Nat.not_succ_le_zero _)
  | case3 _ _ _ _ hk _ ih =>
    intro hlen hns ⟨ts, hm⟩
    have := skip hm hns fun e => hns (e ▸ hk)
    exact ih (Nat.le_succ_of_le (Nat.le_of_succ_le_succ hlen)) hns ⟨ts, this.1⟩
  | case4 _ k _ _ _ v' hl' _ ih =>
    intro hlen hns ⟨ts, hm⟩
    by_cases hkh : k.2 = h
    · cases Option.some.inj ((hkh ▸ hl').symm.trans hl)
      exact hkh ▸ List.mem_cons_self
    · have := skip hm hns hkh
      exact List.mem_cons_of_mem _ (ih (Nat.le_of_succ_le_succ hlen) this.2 ⟨ts, this.1⟩)
  | case5 _ _ _ _ _ hl' _ ih =>
    intro hlen hns ⟨ts, hm⟩
    have := skip hm hns fun e => nomatch hl.symm.trans (e ▸ hl' : lookup h pl = none)
    exact ih (Nat.le_succ_of_le (Nat.le_of_succ_le_succ hlen)) this.2 ⟨ts, this.1⟩

/-- **store_not_eligible** (step): storing a body never touches the scheduling records, so no
    counter of unconsumed queueings changes. -/
theorem store_not_eligible (s : S) (h : Hash) (v : Body) :
    (step s (.store h v)).1.queue = s.queue ∧ (step s (.store h v)).1.order = s.order := by
  show (store s h v).queue = _ ∧ (store s h v).order = _
  unfold store
  split <;> exact ⟨rfl, rfl⟩

example : (step (step empty (.store 7 1)).1 (.retrieve 10)).2 = .txs [] := by decide

/-- one step never returns more of `h` than it consumes, and only an effective queueing of `h`
    adds an unconsumed queueing -/
theorem step_account (s : S) (op : Op) (h : Hash) :
    retOcc h (step s op).2 + cnt h (step s op).1.queue ≤ cnt h s.queue + effQ h s op := by
  cases op with
  | store h' v =>
    show 0 + cnt h (step s (.store h' v)).1.queue ≤ _
    rw [(store_not_eligible s h' v).1, Nat.zero_add]
    exact Nat.le_add_right _ _
  | queue h' v ts =>
    show 0 + cnt h (enqueue s h' v ts).queue ≤ _ + if h' = h ∧ h ∉ s.order then 1 else 0
    unfold enqueue
    by_cases ho : h' ∈ s.order
    · rw [if_pos ho, Nat.zero_add]; exact Nat.le_add_right _ _
    · rw [if_neg ho, Nat.zero_add, ite_cond_congr (propext (and_iff_left_of_imp fun e => e ▸ ho))]
      exact cnt_insertKey_le h (ts, h') s.queue
  | retrieve limit =>
    have h1 := scan_occ_le_cnt s.payload h s.queue limit []
    have h2 := cnt_delete_prefix h (s.queue.take (scan s.payload limit [] s.queue).1)
      (s.queue.drop (scan s.payload limit [] s.queue).1)
    rw [List.take_append_drop] at h2
    exact Nat.le_trans (Nat.add_le_add_right h1 _) (Nat.add_comm _ _ ▸ h2)
  | remove hs => exact Nat.le_of_eq (Nat.zero_add _)
  | get h' => exact Nat.le_of_eq (Nat.zero_add _)

/-- **queueing_consumed_once**: over every history from every state, the number of times `h` is
    returned by retrievals plus its unconsumed queueings at the end never exceeds its unconsumed
    queueings at the start plus the queueings of `h` that took effect. Each returned `h` uses up
    one queueing; no queueing is returned by two retrievals. -/
theorem queueing_consumed_once (h : Hash) (ops : List Op) :
    ∀ s : S, (tally h s ops).1 + cnt h (final s ops).queue ≤ cnt h s.queue + (tally h s ops).2 := by
  induction ops with
  | nil => exact fun s => Nat.le_of_eq (Nat.zero_add _)
  | cons op ops ih =>
    intro s
    have h1 := step_account s op h
    have h2 := ih (step s op).1
    simp only [tally, final]
    omega

/-- from the empty cache: retrievals returning `h` never outnumber its effective queueings -/
theorem returned_le_queued (h : Hash) (ops : List Op) :
    (tally h empty ops).1 ≤ (tally h empty ops).2 := by
  have := queueing_consumed_once h ops empty
  have hc : cnt h empty.queue = 0 := rfl
  omega

example : tally 1 empty [.queue 1 1 5, .retrieve 3, .queue 1 2 6, .queue 1 2 7, .retrieve 3, .retrieve 3]
    = (2, 2) := by decide

theorem cnt_pos_of_returned (s : S) (limit : Nat) (e : Hash × Body) (he : e ∈ (retrieve s limit).2) :
    1 ≤ cnt e.1 s.queue := by
  obtain ⟨⟨ts, h⟩, hk, hke⟩ :=
    List.mem_map.mp ((scan_sublist s.payload limit [] s.queue).subset (List.mem_map_of_mem he))
  exact hke ▸ cnt_pos_of_mem h ts s.queue (List.mem_of_mem_take hk)

/-- **retrieve_only_queued**: after any history from the empty cache, a hash returned by the next
    retrieval has an effective queueing that no earlier retrieval returned. -/
theorem retrieve_only_queued (ops : List Op) (limit : Nat) (e : Hash × Body)
    (he : e ∈ (retrieve (final empty ops) limit).2) :
    (tally e.1 empty ops).1 + 1 ≤ (tally e.1 empty ops).2 := by
  have h0 := queueing_consumed_once e.1 ops empty
  have h1 := cnt_pos_of_returned (final empty ops) limit e he
  have hc : cnt e.1 empty.queue = 0 := rfl
  omega

theorem tally_queued_zero (h : Hash) (ops : List Op) :
    (∀ v ts, Op.queue h v ts ∉ ops) → ∀ s : S, (tally h s ops).2 = 0 := by
  induction ops with
  | nil => exact fun _ _ => rfl
  | cons op ops ih =>
    intro hq s
    have hq' : ∀ v ts, Op.queue h v ts ∉ ops := fun v ts hm => hq v ts (List.mem_cons_of_mem _ hm)
    simp only [tally, ih hq' (step s op).1]
    cases op with
    | queue h' v ts => exact if_neg fun hc : h' = h ∧ _ => hq v ts (hc.1 ▸ List.mem_cons_self)
    | _ => rfl

/-- a hash whose only operations are `store`/`get`/`remove`/retrievals is never returned:
    storing a body alone never makes a transaction eligible -/
theorem never_queued_never_returned (h : Hash) (ops : List Op)
    (hq : ∀ v ts, Op.queue h v ts ∉ ops) : (tally h empty ops).1 = 0 :=
  Nat.le_zero.mp (tally_queued_zero h ops hq empty ▸ returned_le_queued h ops)

/-- **retrieve_nodup_bounded**: a retrieval returns each transaction at most once and no more than
    the requested limit. -/
theorem retrieve_nodup_bounded (s : S) (limit : Nat) :
    ((retrieve s limit).2.map (·.1)).Nodup ∧ (retrieve s limit).2.length ≤ limit :=
  ⟨scan_nodup s.payload s.queue limit [], scan_length_le s.payload s.queue limit []⟩

example : (retrieve ⟨[(1, 4), (2, 4), (3, 5), (4, 6)], [4, 5, 6], [(4, 1), (5, 1), (6, 2)]⟩ 2).2
    = [(4, 1), (5, 1)] := by decide

/-- **retrieve_keeps_body**: retrieval leaves every stored body in place; what it returns is the
    stored body. -/
theorem retrieve_keeps_body (s : S) (limit : Nat) :
    (retrieve s limit).1.payload = s.payload ∧
    ∀ e ∈ (retrieve s limit).2, lookup e.1 (retrieve s limit).1.payload = some e.2 :=
  ⟨rfl, fun e he => (scan_mem s.payload s.queue limit [] e he).2⟩

/-- a hash without a body (never stored, or removed) is not returned, queue key or not -/
theorem no_body_not_returned (s : S) (limit : Nat) (h : Hash) (hb : lookup h s.payload = none) :
    ∀ e ∈ (retrieve s limit).2, e.1 ≠ h := by
  intro e he hc
  have := (scan_mem s.payload s.queue limit [] e he).2
  rw [hc, hb] at this
  cases this

theorem lookup_filter (h : Hash) (p : Hash → Bool) (m : List (Hash × Body)) :
    lookup h (m.filter (fun e => p e.1)) = if p h then lookup h m else none := by
  induction m with
  | nil => exact (ite_self _).symm
  | cons x xs ih =>
    obtain ⟨k, v⟩ := x
    by_cases hk : k = h
    · subst hk; cases hp : p k <;> simp [lookup, hp, ih]
    · cases hp : p k <;> simp [lookup, hp, hk, ih]

theorem lookup_put_self (h : Hash) (v : Body) (m : List (Hash × Body)) :
    lookup h (put h v m) = some v := if_pos rfl

theorem lookup_put_other (h h' : Hash) (v : Body) (m : List (Hash × Body)) (hne : h' ≠ h) :
    lookup h (put h' v m) = lookup h m :=
  (if_neg hne).trans ((lookup_filter h (fun k => k ≠ h') m).trans
    (if_pos (decide_eq_true (Ne.symm hne))))

theorem enqueue_of_not_mem {s : S} {h : Hash} (ho : h ∉ s.order) (v : Body) (ts : Nat) :
    enqueue s h v ts =
      { queue := insertKey (ts, h) s.queue, order := h :: s.order, payload := put h v s.payload } :=
  if_neg ho

/-- **requeue_after_retrieve_eligible**: a returned hash has lost its order key, so queueing it
    again takes effect, stores the new body, and an exhaustive retrieval returns it again. -/
theorem requeue_after_retrieve_eligible (s : S) (limit : Nat) (e : Hash × Body)
    (he : e ∈ (retrieve s limit).2) (v : Body) (ts : Nat) :
    e.1 ∉ (retrieve s limit).1.order ∧
    effQ e.1 (retrieve s limit).1 (.queue e.1 v ts) = 1 ∧
    ∀ limit', (enqueue (retrieve s limit).1 e.1 v ts).queue.length ≤ limit' →
      (e.1, v) ∈ (retrieve (enqueue (retrieve s limit).1 e.1 v ts) limit').2 := by
  have hno : e.1 ∉ (retrieve s limit).1.order := fun hm =>
    of_decide_eq_true (List.mem_filter.mp hm).2
      ((scan_sublist s.payload limit [] s.queue).subset (List.mem_map_of_mem he))
  refine ⟨hno, if_pos ⟨rfl, hno⟩, fun limit' hlen => ?_⟩
  rw [enqueue_of_not_mem hno] at hlen ⊢
  exact scan_complete _ e.1 v (lookup_put_self _ _ _) _ limit' [] hlen (fun hm => nomatch hm)
    ⟨ts, (mem_insertKey_iff _ _ _).mpr (.inl rfl)⟩

example : (retrieve (enqueue (retrieve (enqueue empty 3 1 10) 5).1 3 2 11) 5).2 = [(3, 2)] := by decide

/-- **remove_deletes_body**: removal deletes the body of every listed hash and no other; the queue
    keys stay (a later `store` or `queue` of the hash finds them). -/
theorem remove_deletes_body (s : S) (hs : List Hash) :
    (∀ h ∈ hs, lookup h (remove s hs).payload = none) ∧
    (∀ h, h ∉ hs → lookup h (remove s hs).payload = lookup h s.payload) ∧
    (remove s hs).queue = s.queue :=
  ⟨fun h hh => (lookup_filter h (fun k => k ∉ hs) s.payload).trans
      (if_neg (by simpa using hh)),
    fun h hh => (lookup_filter h (fun k => k ∉ hs) s.payload).trans
      (if_pos (by simpa using hh)), rfl⟩

example : (step (step (step empty (.queue 2 1 9)).1 (.remove [2])).1 (.get 2)).2 = .body none := by decide

-- the quirk the model inherits from the code: removal keeps the queue key, so the unconsumed
-- queueing survives and a later plain `store` makes the hash retrievable again
example : (retrieve (store (remove (enqueue empty 1 1 5) [1]) 1 2) 5).2 = [(1, 2)] := by decide

/-! ## the kernel callers (kernel/node.go, kernel/queue.go) -/

open Mixin.CacheKernel

/-- index invariant of the cache: a hash with an order key has a queue key and a body -/
def OrderInv (s : S) : Prop :=
  ∀ h ∈ s.order, (∃ ts, (ts, h) ∈ s.queue) ∧ ∃ v, lookup h s.payload = some v

/-- `h` will be returned by an exhaustive retrieval: it has a queue key and a body -/
def Eligible (s : S) (h : Hash) : Prop :=
  (∃ ts, (ts, h) ∈ s.queue) ∧ ∃ v, lookup h s.payload = some v

theorem eligible_retrieved (s : S) (h : Hash) (he : Eligible s h) (limit : Nat)
    (hl : s.queue.length ≤ limit) : ∃ v, (h, v) ∈ (retrieve s limit).2 :=
  let ⟨hq, v, hv⟩ := he
  ⟨v, scan_complete s.payload h v hv s.queue limit [] hl (fun hm => nomatch hm) hq⟩

theorem eligible_after_put {s : S} {h' : Hash} (he : Eligible s h') (h : Hash) (v : Body) {q : List QKey}
    {o : List Hash} (hq : ∀ k ∈ s.queue, k ∈ q) :
    Eligible { queue := q, order := o, payload := put h v s.payload } h' := by
  obtain ⟨⟨t', ht'⟩, v', hv'⟩ := he
  refine ⟨⟨t', hq _ ht'⟩, ?_⟩
  by_cases hh : h = h'
  · exact ⟨v, hh ▸ lookup_put_self _ _ _⟩
  · exact ⟨v', (lookup_put_other h' h v s.payload hh).trans hv'⟩

/-- queueing never takes eligibility away, and makes its own hash eligible when the index
    invariant holds -/
theorem enqueue_eligible (s : S) (hI : OrderInv s) (h : Hash) (v : Body) (ts : Nat) :
    OrderInv (enqueue s h v ts) ∧ Eligible (enqueue s h v ts) h ∧
    ∀ h', Eligible s h' → Eligible (enqueue s h v ts) h' := by
  by_cases ho : h ∈ s.order
  · rw [enqueue, if_pos ho]
    exact ⟨hI, hI h ho, fun _ he => he⟩
  · rw [enqueue_of_not_mem ho]
    have hq : ∀ k ∈ s.queue, k ∈ insertKey (ts, h) s.queue := fun k hk =>
      (mem_insertKey_iff _ _ _).mpr (.inr hk)
    have self : Eligible ⟨insertKey (ts, h) s.queue, h :: s.order, put h v s.payload⟩ h :=
      ⟨⟨ts, (mem_insertKey_iff _ _ _).mpr (.inl rfl)⟩, v, lookup_put_self _ _ _⟩
    exact ⟨List.forall_mem_cons.mpr ⟨self, fun h' hm => eligible_after_put (hI h' hm) h v hq⟩,
      self, fun h' he => eligible_after_put he h v hq⟩

/-- the index invariant holds in every state the storage methods can reach -/
theorem orderInv_step (s : S) (hI : OrderInv s) (op : Op) : OrderInv (step s op).1 := by
  cases op with
  | store h v =>
    show OrderInv (store s h v)
    unfold store
    split
    · exact hI
    · exact fun h' hm => eligible_after_put (hI h' hm) h v fun _ hk => hk
  | queue h v ts => exact (enqueue_eligible s hI h v ts).1
  | retrieve limit =>
    intro h hm
    obtain ⟨hm, hnp⟩ := List.mem_filter.mp hm
    obtain ⟨⟨ts, hq⟩, hv⟩ := hI h hm
    exact ⟨⟨ts, List.mem_filter.mpr ⟨hq, decide_eq_true fun hp =>
      of_decide_eq_true hnp (List.mem_map.mpr ⟨(ts, h), hp, rfl⟩)⟩⟩, hv⟩
  | remove hs =>
    intro h hm
    obtain ⟨hm, hnp⟩ := List.mem_filter.mp hm
    obtain ⟨hq, v, hv⟩ := hI h hm
    exact ⟨hq, v, ((lookup_filter h (fun k => k ∉ hs) s.payload).trans (if_pos hnp)).trans hv⟩
  | get h => exact hI

theorem orderInv_empty : OrderInv empty := nofun

/-- **kernel_queue_makes_eligible_unless_finalized**: `Node.CacheQueueTransactions` skips exactly
    the finalized transactions. Every other transaction of the call — absent, cached only, or
    persisted but not finalized (a verified proposal that was abandoned) — is eligible afterwards:
    an exhaustive retrieval returns it. -/
theorem kernel_queue_makes_eligible_unless_finalized (txs : List (Hash × Body × Nat)) :
    ∀ k : K, OrderInv k.c →
      OrderInv (kernelQueue k txs).c ∧ (kernelQueue k txs).persist = k.persist ∧
      (∀ h', Eligible k.c h' → Eligible (kernelQueue k txs).c h') ∧
      ∀ e ∈ txs, isFinalized k e.1 = false →
        ∀ limit, (kernelQueue k txs).c.queue.length ≤ limit →
          ∃ v, (e.1, v) ∈ (retrieve (kernelQueue k txs).c limit).2 := by
  induction txs with
  | nil => exact fun k hI => ⟨hI, rfl, fun _ he => he, nofun⟩
  | cons t rest ih =>
    intro k hI
    obtain ⟨h, v, ts⟩ := t
    unfold kernelQueue
    split
    · next hf =>
      obtain ⟨h1, h2, h3, h4⟩ := ih k hI
      refine ⟨h1, h2, h3, List.forall_mem_cons.mpr ⟨fun hnf => ?_, h4⟩⟩
      exact absurd (hf.symm.trans hnf) nofun
    · obtain ⟨hI', hself, hkeep⟩ := enqueue_eligible k.c hI h v ts
      obtain ⟨h1, h2, h3, h4⟩ := ih { k with c := enqueue k.c h v ts } hI'
      exact ⟨h1, h2, fun h' he => h3 h' (hkeep h' he), List.forall_mem_cons.mpr
        ⟨fun _ limit hl => eligible_retrieved _ h (h3 h hself) limit hl, h4⟩⟩

-- the scenario of a persisted, unfinalized transaction that a peer queues again after retrieval
example :
    let k0 : K := kernelQueue emptyK [(1, 1, 10)]
    let k1 : K := persistTx { k0 with c := (retrieve k0.c 5).1 } 1
    (retrieve (kernelQueue k1 [(1, 2, 11)]).c 5).2 = [(1, 2)] := by decide

-- a finalized transaction is skipped by the peer path
example : (kernelQueue (finalizeTx emptyK 1) [(1, 1, 10)]).c = empty := by decide

/-- **kernel_store_never_eligible**: `Node.CacheStoreTransactions` never touches the scheduling
    records, whatever the persistence state of the transactions. -/
theorem kernel_store_never_eligible (txs : List (Hash × Body)) :
    ∀ k : K, (kernelStore k txs).c.queue = k.c.queue ∧ (kernelStore k txs).c.order = k.c.order ∧
      (kernelStore k txs).persist = k.persist := by
  induction txs with
  | nil => exact fun k => ⟨rfl, rfl, rfl⟩
  | cons t rest ih =>
    intro k
    obtain ⟨h, v⟩ := t
    unfold kernelStore
    split
    · exact ih k
    · have h1 := ih { k with c := store k.c h v }
      have h2 := store_not_eligible k.c h v
      exact ⟨h1.1.trans h2.1, h1.2.1.trans h2.2, h1.2.2⟩

/-- `Node.QueueTransaction`: a finalized transaction is left alone; otherwise, when the call
    succeeds, the transaction is eligible afterwards. -/
theorem rpc_queue_eligible_unless_finalized (k : K) (hI : OrderInv k.c) (h : Hash) (v : Body)
    (valid : Bool) (ts : Nat) :
    (isFinalized k h = true → (rpcQueue k h v valid ts).1 = k) ∧
    (isFinalized k h = false → (rpcQueue k h v valid ts).2 = true →
      Eligible (rpcQueue k h v valid ts).1.c h) := by
  have hen := (enqueue_eligible k.c hI h v ts).2.1
  unfold rpcQueue
  refine ⟨fun hf => by rw [if_pos hf], fun hf hok => ?_⟩
  rw [if_neg (by simp [hf])] at hok ⊢
  split at hok
  · exact hen
  · cases valid
    · cases hok
    · exact hen

end Mixin.C23
