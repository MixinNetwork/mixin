import Mixin.Model.MintAccept
import Mixin.Props.C29
/-!
# C25 at the acceptance level — what every ACCEPTED mint snapshot satisfies

`Mixin.MintAccept.validateMint` models `kernel/mint.go:validateMintSnapshot`. The theorems say
that acceptance forces the schedule (C25), the distribution rules (C25) and the election (C29):
the theorems of `Mixin.C25` about the pure functions therefore hold of every accepted mint.
The store reads the validator trusts are the fields of `MintEnv`.
-/
namespace Mixin.C25
open Mixin.Amount Mixin.Mint Mixin.Election Mixin.MintAccept

/-- `checkUniversalMintPossibility(ts, validateOnly = true)` with a positive batch: the batch is
    the day index of `ts`, not below the last mint; equal to it only to re-validate the recorded
    amount; beyond it the amount is the multi-batch amount of the schedule. -/
theorem possibility_amount (P : Params) {epoch ts lb la b a : Nat}
    (h : mintPossibility P epoch ts true lb la = some (b, a)) (hb : 0 < b) :
    lb ≤ b ∧ (b = lb → a = la) ∧ (lb < b → mintMulti P lb b = some a) :=
  have hp := mintPossibility_pos P h hb
  ⟨hp.last_le, fun e => (hp.revalidate e).2, hp.multi⟩

theorem buildMint_tx {env : MintEnv} {ts : Nat} {vo : Bool} {b : MintTx} (h : buildMint env ts vo = .tx b) :
    mintPossibility params env.epoch ts vo env.lastBatch env.lastAmount = some (b.batch, b.amount) ∧
    ∃ mints safe light, buildOutputs b.batch b.amount (distAt env ts) = .tx mints safe light ∧
      b.outputs = mints ++ [safe, light] ∧ b.rest = env.canonRest := by
  unfold buildMint at h
  cases hp : mintPossibility params env.epoch ts vo env.lastBatch env.lastAmount with
  | none => rw [hp] at h; cases h
  | some pr =>
    obtain ⟨batch, amount⟩ := pr
    rw [hp] at h; simp only at h
    cases ho : buildOutputs batch amount (distAt env ts) with
    | nil => rw [ho] at h; cases h
    | panic => rw [ho] at h; cases h
    | tx k s l =>
      rw [ho] at h; simp only at h
      cases h
      exact ⟨rfl, k, s, l, ho, rfl, rfl⟩

theorem validateMint_accept {env : MintEnv} {proposer ts : Nat} {tx : MintTx}
    (h : validateMint env proposer ts tx = .accept) :
    electedIs env.hist env.epoch mintOp ts proposer = .pass ∧ buildMint env ts true = .tx tx := by
  unfold validateMint at h
  cases he : electedIs env.hist env.epoch mintOp ts proposer with
  | panic => rw [he] at h; cases h
  | reject => rw [he] at h; cases h
  | pass =>
    rw [he] at h; simp only at h
    cases hb : buildMint env ts true with
    | panic => rw [hb] at h; cases h
    | nil => rw [hb] at h; cases h
    | tx b =>
      rw [hb] at h; simp only at h
      by_cases heq : tx = b
      · exact ⟨rfl, by rw [heq]⟩
      · rw [if_neg heq] at h; cases h

theorem distAt_eq (env : MintEnv) (ts : Nat) :
    distAt env ts = distOf (acceptedCount env ts) (dayGap env ts) env.today env.spaces env.works env.thr := rfl

/-- what `validateMintSnapshot` has established when it accepts `tx`, whose outputs are `mints ++ [safe, light]` -/
structure AcceptedMint (env : MintEnv) (proposer ts : Nat) (tx : MintTx) (mints : List Nat) (safe light : Nat) : Prop where
  elected : electedIs env.hist env.epoch mintOp ts proposer = .pass
  possible : MintPossible params env.epoch ts true env.lastBatch env.lastAmount tx.batch tx.amount
  built : buildOutputs tx.batch tx.amount (distAt env ts) = .tx mints safe light
  outputs_eq : tx.outputs = mints ++ [safe, light]
  rest_eq : tx.rest = env.canonRest

theorem validateMint_accepted {env : MintEnv} {proposer ts : Nat} {tx : MintTx}
    (h : validateMint env proposer ts tx = .accept) : ∃ mints safe light, AcceptedMint env proposer ts tx mints safe light := by
  obtain ⟨he, hb⟩ := validateMint_accept h
  obtain ⟨hp, mints, safe, light, ho, hout, hrest⟩ := buildMint_tx hb
  exact ⟨mints, safe, light, he,
    mintPossibility_pos params hp (Nat.zero_lt_of_lt (buildOutputs_tx ho).after_legacy), ho, hout, hrest⟩

/-- **Every accepted mint follows the schedule.** A mint snapshot accepted by
    `validateMintSnapshot` at time `ts` is proposed by the node elected for mints at `ts`, lies
    strictly after the epoch inside the mint hour window, carries the batch computed from `ts`
    (beyond the legacy ending, not below the last mint), a positive amount that is the
    multi-batch amount of the schedule for `(lastBatch, batch]` (or, for `batch = lastBatch`, the
    recorded amount: the re-validation of the recorded mint), and its outputs are exactly the
    split of that amount: the work based distribution of the kernel share over the accepted
    nodes, then the custodian share, then the light share; every other payload byte is the
    kernel's own. -/
theorem accepted_mint_follows_schedule {env : MintEnv} {proposer ts : Nat} {tx : MintTx}
    (h : validateMint env proposer ts tx = .accept) :
    elect env.hist env.epoch mintOp ts = .id proposer ∧
    env.epoch < ts ∧
    mintTimeBegin ≤ (ts - env.epoch) / Mint.hourNs % 24 ∧ (ts - env.epoch) / Mint.hourNs % 24 ≤ mintTimeEnd ∧
    tx.batch = (ts - env.epoch) / Mint.hourNs / 24 ∧ legacyEnding < tx.batch ∧ env.lastBatch ≤ tx.batch ∧
    0 < tx.amount ∧
    (tx.batch = env.lastBatch → tx.amount = env.lastAmount) ∧
    (env.lastBatch < tx.batch → mintMulti params env.lastBatch tx.batch = some tx.amount) ∧
    ∃ mints safe light, buildOutputs tx.batch tx.amount (distAt env ts) = .tx mints safe light ∧
      tx.outputs = mints ++ [safe, light] ∧ tx.rest = env.canonRest := by
  obtain ⟨mints, safe, light, hm⟩ := validateMint_accepted h
  have hw := hm.possible
  have hg := buildOutputs_tx hm.built
  exact ⟨Mixin.C29.electedIs_pass Mixin.C29.mint_op_elected hm.elected, hw.after_epoch, hw.hour_ge, hw.hour_le,
    hw.batch_eq, hg.after_legacy, hw.last_le, hg.amount_pos, fun e => (hw.revalidate e).2, hw.multi,
    mints, safe, light, hm.built, hm.outputs_eq, hm.rest_eq⟩

/-- **The distribution theorems hold of every accepted mint**: its outputs are the kernel
    shares, the custodian share and the light share; they sum exactly to the amount; the kernel
    shares sum to at most half; the custodian share is `⌊amount/10⌋·4`; every output is
    positive and the light share is at least a tenth; and after the first day a node with more
    work (raw `lead·1.2 + sign` of the previous day, in accepted-list order) never has a smaller
    share. -/
theorem accepted_mint_outputs {env : MintEnv} {proposer ts : Nat} {tx : MintTx}
    (h : validateMint env proposer ts tx = .accept) :
    ∃ mints safe light, tx.outputs = mints ++ [safe, light] ∧
      mints.sum + safe + light = tx.amount ∧ 2 * mints.sum ≤ tx.amount ∧ safe = tx.amount / 10 * 4 ∧
      (∀ o ∈ tx.outputs, 0 < o) ∧ tx.amount / 10 ≤ light ∧
      (0 < dayGap env ts → mints.length = env.works.length ∧
        ∀ (i j : Nat) wi wj si sj, env.works[i]? = some wi → env.works[j]? = some wj → mints[i]? = some si →
          mints[j]? = some sj → workT wi ≤ workT wj → si ≤ sj) := by
  obtain ⟨mints, safe, light, hm⟩ := validateMint_accepted h
  have ho := hm.built
  rw [distAt_eq] at ho
  obtain ⟨hmints, hsafe, hlight, htenth⟩ := outputs_positive ho
  refine ⟨mints, safe, light, hm.outputs_eq, dist_sums_exact ho, kernel_le_half ho, custodian_is_4_tenths ho, ?_,
    htenth, fun hgap => dist_monotone (distribute_works hgap (buildOutputs_tx ho).dist_ok)⟩
  rw [hm.outputs_eq, List.forall_mem_append]
  exact ⟨hmints, List.forall_mem_cons.mpr ⟨hsafe, List.forall_mem_singleton.mpr hlight⟩⟩

/-- The proposer of an accepted mint is neither the oldest nor the newest accepted node. -/
theorem accepted_mint_proposer_not_extreme {env : MintEnv} {proposer ts : Nat} {tx : MintTx}
    (h : validateMint env proposer ts tx = .accept) :
    (∀ a, (nodesList env.hist ts true).head? = some a → proposer ≠ a.id) ∧
    (∀ z, (nodesList env.hist ts true).getLast? = some z → proposer ≠ z.id) :=
  Mixin.C29.elect_not_extremes (accepted_mint_follows_schedule h).1

/-- A run of newly accepted mints starting after batch `b0`: every step is a mint snapshot
    accepted by the validator in a store state whose last mint distribution is the previous
    accepted mint (what `WriteSnapshot` records), with a batch beyond it. `total` is the sum of
    the accepted amounts. -/
inductive AcceptedRun (b0 : Nat) : Nat → Nat → Prop
  | start : AcceptedRun b0 b0 0
  | step {last total : Nat} {env : MintEnv} {proposer ts : Nat} {tx : MintTx} :
      AcceptedRun b0 last total → env.lastBatch = last → validateMint env proposer ts tx = .accept →
      last < tx.batch → AcceptedRun b0 tx.batch (total + tx.amount)

/-- **Over any run of accepted mints the total minted stays within the pool**: it is exactly
    the sum of the scheduled batches `(b0, last]`, so together with everything scheduled up to
    `b0` it never exceeds `MintPool`. -/
theorem accepted_mints_cumulative_le_pool {b0 last total : Nat} (h : AcceptedRun b0 last total) :
    b0 ≤ last ∧ total + cum (batchVal params) (b0 + 1) = cum (batchVal params) (last + 1) ∧
      total + cum (batchVal params) (b0 + 1) ≤ params.pool := by
  have key : b0 ≤ last ∧ total + cum (batchVal params) (b0 + 1) = cum (batchVal params) (last + 1) := by
    induction h with
    | start => exact ⟨Nat.le_refl _, Nat.zero_add _⟩
    | @step last total env proposer ts tx _ hlast hacc hlt ih =>
      obtain ⟨_, _, _, hmint⟩ := validateMint_accepted hacc
      have hm := hmint.possible.multi (hlast ▸ hlt)
      rw [hlast] at hm
      exact ⟨Nat.le_trans ih.1 (Nat.le_of_lt hlt), by rw [Nat.add_right_comm, ih.2, multi_add_cum params hm]⟩
  exact ⟨key.1, key.2, key.2 ▸ cumulative_le_pool_params last⟩

theorem validateMintSnap_stamped (self clock : Nat) {snapNode snapTs : Nat} (hts : snapTs ≠ 0) (env : MintEnv) (tx : MintTx) :
    validateMintSnap self clock env snapNode snapTs tx = validateMint env snapNode snapTs tx := by
  unfold validateMintSnap
  rw [Mixin.C29.operation_time_is_snapshot_time self clock snapNode snapTs (Or.inl hts)]

/-- A mint snapshot with a timestamp is validated at that timestamp by every node, whatever
    its clock: two nodes (the proposer later included) reach the same decision. -/
theorem mint_decision_independent_of_clock (self₁ clock₁ self₂ clock₂ snapNode snapTs : Nat) (hts : snapTs ≠ 0)
    (env : MintEnv) (tx : MintTx) :
    validateMintSnap self₁ clock₁ env snapNode snapTs tx = validateMintSnap self₂ clock₂ env snapNode snapTs tx := by
  rw [validateMintSnap_stamped self₁ clock₁ hts, validateMintSnap_stamped self₂ clock₂ hts]

/-- `accepted_mint_follows_schedule` for a timestamped snapshot: the schedule, window and election
    are those of the snapshot's timestamp. -/
theorem accepted_mint_snapshot_at_its_timestamp {self clock snapNode snapTs : Nat} (hts : snapTs ≠ 0)
    {env : MintEnv} {tx : MintTx} (h : validateMintSnap self clock env snapNode snapTs tx = .accept) :
    validateMint env snapNode snapTs tx = .accept :=
  validateMintSnap_stamped self clock hts env tx ▸ h

/-! ### non-vacuity: the model accepts a kernel-built mint and rejects a changed amount -/

def demoEnv : MintEnv :=
  { hist := (List.range 9).map (fun i => ⟨100 - i, i, 1000, .accepted⟩), epoch := 1000,
    lastBatch := 1706, lastAmount := 0,
    today := List.replicate 9 1, spaces := List.replicate 9 5000,
    works := [(10, 100), (20, 300), (5, 50), (0, 0), (40, 900), (11, 120), (9, 80), (7, 70), (3, 30)],
    thr := 7, canonRest := 77 }

def demoTs : Nat := 1000 + 1707 * 86400000000000 + 8 * 3600000000000

example : ∃ b, buildMint demoEnv demoTs true = .tx b ∧
    validateMint demoEnv (match elect demoEnv.hist 1000 mintOp demoTs with | .id x => x | _ => 0) demoTs b = .accept ∧
    validateMint demoEnv (match elect demoEnv.hist 1000 mintOp demoTs with | .id x => x | _ => 0) demoTs
      { b with amount := b.amount + 1 } = .reject := ⟨_, rfl, by decide +kernel, by decide +kernel⟩

end Mixin.C25
