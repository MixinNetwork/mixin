import Mixin.Model.Round
import Mixin.Proofs.Basics
import Mixin.Facts.ExpectedC19
/-!
# C19 — a live round never spans a full round gap and holds no duplicates

Theorems about `Mixin.Model.Round` (model of `kernel/round.go`
`CacheRound.validateSnapshot / Gap / asFinal` and the closing assertion of
`common.ComputeRoundHash`).

Timestamps are natural numbers; the Go code computes `ts + gap` in `uint64`, the model
computes it modulo 2^64.  Every theorem that needs it carries the explicit hypothesis
`NoWrap gap l` (`ts + gap < 2^64` for the snapshots involved).  It is true of every timestamp
the admission path lets through (bounded by wall clock + 30 s, i.e. < 2^61 for the next
decades); `close_fails_when_wrapping` shows that the hypothesis cannot be dropped, and the
harness replays that witness on the real code (the outcome there is the same panic).
-/
namespace Mixin.C19
open Mixin.Round

/-- two snapshots may live in the same round -/
def Compatible (day : Nat) (a b : Snap) : Prop :=
  a.hash ≠ b.hash ∧ a.ts ≠ b.ts ∧ a.ts / day = b.ts / day ∧ ∀ t ∈ a.txs, t ∉ b.txs

/-- the round invariant: pairwise distinct hashes, pairwise distinct timestamps, pairwise
    disjoint transaction lists, one day, and any two timestamps less than a gap apart
    (equivalently `max ts < min ts + gap`, see `span_iff_max_min`); every member carries the
    round's number and a non-zero hash. -/
structure RInv (gap day : Nat) (r : Round) : Prop where
  pair : r.snaps.Pairwise (Compatible day)
  span : ∀ a ∈ r.snaps, ∀ b ∈ r.snaps, a.ts < b.ts + gap
  wf : ∀ a ∈ r.snaps, a.round = r.number ∧ a.hash ≠ 0

/-- no `ts + gap` wraps around 2^64 -/
def NoWrap (gap : Nat) (l : List Snap) : Prop := ∀ a ∈ l, a.ts + gap < two64

theorem compatible_symm {day : Nat} {a b : Snap} (h : Compatible day a b) : Compatible day b a := by
  obtain ⟨h1, h2, h3, h4⟩ := h
  exact ⟨fun e => h1 e.symm, fun e => h2 e.symm, h3.symm, fun t hb ha => h4 t ha hb⟩

theorem conflicts_false_iff {day : Nat} {s cs : Snap} :
    conflicts day s cs = false ↔ Compatible day cs s := by
  simp only [conflicts, Compatible, Bool.or_eq_false_iff, beq_eq_false_iff_ne, bne_eq_false_iff_eq,
    List.any_eq_false, List.contains_iff_mem, and_assoc]
  exact and_congr_right fun _ => and_congr_right fun _ => and_congr_right fun _ =>
    ⟨fun h t hc hs => h t hs hc, fun h t hs hc => h t hc hs⟩

theorem any_conflicts_eq_false {day : Nat} {s : Snap} {l : List Snap} :
    l.any (conflicts day s) = false ↔ ∀ cs ∈ l, Compatible day cs s := by
  simp only [List.any_eq_false, Bool.not_eq_true, conflicts_false_iff]

theorem minTs_le : ∀ {l : List Snap} {a : Snap}, a ∈ l → minTs l ≤ a.ts
  | [], _, h => nomatch h
  | [s], a, h => by rw [List.mem_singleton.mp h]; exact Nat.le_refl _
  | s :: t :: u, a, h => by
    rcases List.mem_cons.mp h with rfl | h
    · exact Nat.min_le_left _ _
    · exact Nat.le_trans (Nat.min_le_right _ _) (minTs_le h)

theorem le_maxTs : ∀ {l : List Snap} {a : Snap}, a ∈ l → a.ts ≤ maxTs l
  | [], _, h => nomatch h
  | [s], a, h => by rw [List.mem_singleton.mp h]; exact Nat.le_refl _
  | s :: t :: u, a, h => by
    rcases List.mem_cons.mp h with rfl | h
    · exact Nat.le_max_left _ _
    · exact Nat.le_trans (le_maxTs h) (Nat.le_max_right _ _)

theorem minTs_mem : ∀ {l : List Snap}, l ≠ [] → ∃ a ∈ l, a.ts = minTs l
  | [], h => absurd rfl h
  | [s], _ => ⟨s, List.mem_singleton_self s, rfl⟩
  | s :: t :: u, _ => by
    obtain ⟨a, ha, he⟩ := @minTs_mem (t :: u) (List.cons_ne_nil _ _)
    rcases Nat.le_total s.ts (minTs (t :: u)) with hc | hc
    · exact ⟨s, List.mem_cons_self, (Nat.min_eq_left hc).symm⟩
    · exact ⟨a, List.mem_cons_of_mem _ ha, he.trans (Nat.min_eq_right hc).symm⟩

theorem maxTs_mem : ∀ {l : List Snap}, l ≠ [] → ∃ a ∈ l, a.ts = maxTs l
  | [], h => absurd rfl h
  | [s], _ => ⟨s, List.mem_singleton_self s, rfl⟩
  | s :: t :: u, _ => by
    obtain ⟨a, ha, he⟩ := @maxTs_mem (t :: u) (List.cons_ne_nil _ _)
    rcases Nat.le_total (maxTs (t :: u)) s.ts with hc | hc
    · exact ⟨s, List.mem_cons_self, (Nat.max_eq_left hc).symm⟩
    · exact ⟨a, List.mem_cons_of_mem _ ha, he.trans (Nat.max_eq_right hc).symm⟩

theorem maxTs_lt_iff {l : List Snap} (hne : l ≠ []) {x : Nat} :
    maxTs l < x ↔ ∀ a ∈ l, a.ts < x := by
  refine ⟨fun h a ha => Nat.lt_of_le_of_lt (le_maxTs ha) h, fun h => ?_⟩
  obtain ⟨a, ha, he⟩ := maxTs_mem hne
  exact he ▸ h a ha

/-- stated with the `+ gap` every use carries (`x - gap` would truncate) -/
theorem lt_minTs_add_iff {l : List Snap} (hne : l ≠ []) {x gap : Nat} :
    x < minTs l + gap ↔ ∀ a ∈ l, x < a.ts + gap := by
  refine ⟨fun h a ha => Nat.lt_of_lt_of_le h (Nat.add_le_add_right (minTs_le ha) gap), fun h => ?_⟩
  obtain ⟨a, ha, he⟩ := minTs_mem hne
  exact he ▸ h a ha

/-- "any two timestamps are less than a gap apart" is the same as `max < min + gap` -/
theorem span_iff_max_min {gap : Nat} {l : List Snap} (hne : l ≠ []) :
    (∀ a ∈ l, ∀ b ∈ l, a.ts < b.ts + gap) ↔ maxTs l < minTs l + gap := by
  simp only [maxTs_lt_iff hne, lt_minTs_add_iff hne]

theorem u64_of_lt {x : Nat} (h : x < two64) : u64 x = x := Nat.mod_eq_of_lt h

theorem u64_minTs_add {gap : Nat} {l : List Snap} (hne : l ≠ []) (hw : NoWrap gap l) :
    u64 (minTs l + gap) = minTs l + gap := by
  obtain ⟨b, hb, heb⟩ := minTs_mem hne
  exact heb ▸ u64_of_lt (hw b hb)

theorem gapOf_of_ne_nil {gap : Nat} {l : List Snap} (hne : l ≠ []) :
    gapOf gap l = if maxTs l ≥ u64 (minTs l + gap) then none else some (minTs l, maxTs l) := by
  cases l with
  | nil => exact absurd rfl hne
  | cons _ _ => rfl

theorem asFinal_of_ne_nil {gap : Nat} {r : Round} (hne : r.snaps ≠ []) :
    asFinal gap r = if maxTs r.snaps ≥ u64 (minTs r.snaps + gap) then .panic
      else .ok (minTs r.snaps) (maxTs r.snaps) := by
  unfold asFinal
  cases h : r.snaps with
  | nil => exact absurd h hne
  | cons _ _ => rfl

/-- **Closing never fails.** Under the invariant a non-empty round closes: the assertion
    inside `ComputeRoundHash` (and the identical one inside `Gap`) holds, `asFinal` returns
    start = smallest and end = largest timestamp, and `end < start + gap`. -/
theorem close_never_fails {gap day : Nat} {r : Round} (hinv : RInv gap day r)
    (hne : r.snaps ≠ []) (hw : NoWrap gap r.snaps) :
    asFinal gap r = .ok (minTs r.snaps) (maxTs r.snaps) ∧
      gapOf gap r.snaps = some (minTs r.snaps, maxTs r.snaps) ∧
      maxTs r.snaps < minTs r.snaps + gap := by
  have hspan := (span_iff_max_min hne).mp hinv.span
  have hlt := Nat.not_le.mpr hspan
  rw [asFinal_of_ne_nil hne, gapOf_of_ne_nil hne, u64_minTs_add hne hw, if_neg hlt, if_neg hlt]
  exact ⟨rfl, rfl, hspan⟩

-- the `if` over a ∀-statement on the right-hand side is decided classically
open Classical in
/-- **Exact acceptance rule.**  On a round satisfying the invariant, a well-formed candidate
    (right round number, non-zero hash) is accepted exactly when it is compatible with every
    stored snapshot and lies less than a gap from both ends; acceptance appends it (with
    `add = true`) or leaves the round alone (`add = false`); nothing panics. -/
theorem validate_spec {gap day : Nat} {r : Round} {s : Snap} {add : Bool}
    (hinv : RInv gap day r) (hw : NoWrap gap (s :: r.snaps))
    (hs : s.round = r.number ∧ s.hash ≠ 0) :
    validateSnapshot gap day r s add =
      if (∀ cs ∈ r.snaps, Compatible day cs s) ∧
          (∀ cs ∈ r.snaps, cs.ts < s.ts + gap ∧ s.ts < cs.ts + gap)
      then Outcome.ok (if add then { r with snaps := r.snaps ++ [s] } else r)
      else Outcome.reject := by
  obtain ⟨hws, hwr⟩ := List.forall_mem_cons.mp hw
  unfold validateSnapshot
  rw [if_neg (fun h => h.elim (fun h => h hs.1) hs.2)]
  by_cases hall : ∀ cs ∈ r.snaps, Compatible day cs s
  case neg =>
    rw [if_pos (by rwa [← Bool.not_eq_false, any_conflicts_eq_false]), if_neg (fun h => hall h.1)]
  rw [if_neg (by rwa [Bool.not_eq_true, any_conflicts_eq_false])]
  by_cases hne : r.snaps = []
  · -- empty round: sentinel start > end, nothing is measured
    rw [hne, show gapOf gap [] = some (sentinelStart, 0) from rfl]
    exact (if_neg fun h => absurd h.1 (by decide)).trans
      (if_pos ⟨fun _ h => (nomatch h), fun _ h => (nomatch h)⟩).symm
  · obtain ⟨-, hg, hspan⟩ := close_never_fails hinv hne hwr
    rw [hg]
    have hmm : minTs r.snaps ≤ maxTs r.snaps :=
      let ⟨a, ha, he⟩ := maxTs_mem hne; he ▸ minTs_le ha
    have hnear : (∀ cs ∈ r.snaps, cs.ts < s.ts + gap ∧ s.ts < cs.ts + gap) ↔
        maxTs r.snaps < s.ts + gap ∧ s.ts < minTs r.snaps + gap := by
      simp only [maxTs_lt_iff hne, lt_minTs_add_iff hne, imp_and, forall_and]
    -- Go tests one end at a time; since `min ≤ max < min + gap` (the invariant), being a gap or more
    -- before the end puts `s` before the start and vice versa, so the test is the negation of nearness
    have hrej : (minTs r.snaps ≤ maxTs r.snaps ∧
          (s.ts < minTs r.snaps ∧ s.ts + gap ≤ maxTs r.snaps ∨
            s.ts > maxTs r.snaps ∧ minTs r.snaps + gap ≤ s.ts)) ↔
        ¬ (maxTs r.snaps < s.ts + gap ∧ s.ts < minTs r.snaps + gap) := by omega
    simp only [u64_of_lt hws, u64_minTs_add hne hwr, hnear, hrej]
    by_cases h : maxTs r.snaps < s.ts + gap ∧ s.ts < minTs r.snaps + gap
    · exact (if_neg (not_not_intro h)).trans (if_pos ⟨hall, h⟩).symm
    · exact (if_pos h).trans (if_neg fun h' => h h'.2).symm

theorem validateSnapshot_ok {gap day : Nat} {r r' : Round} {s : Snap} {add : Bool}
    (h : validateSnapshot gap day r s add = .ok r') :
    (s.round = r.number ∧ s.hash ≠ 0) ∧
      r' = if add then { r with snaps := r.snaps ++ [s] } else r := by
  obtain ⟨h0, h⟩ := of_ite_eq h nofun
  obtain ⟨-, h⟩ := of_ite_eq h nofun
  refine ⟨⟨Decidable.not_not.mp fun h1 => h0 (.inl h1), fun h2 => h0 (.inr h2)⟩, ?_⟩
  rcases hg : gapOf gap r.snaps with _ | ⟨a, b⟩ <;> rw [hg] at h
  · cases h
  · exact (Outcome.ok.inj (of_ite_eq h nofun).2).symm

theorem accept_appends {gap day : Nat} {r r' : Round} {s : Snap} {add : Bool}
    (h : validateSnapshot gap day r s add = .ok r') :
    r' = if add then { r with snaps := r.snaps ++ [s] } else r :=
  (validateSnapshot_ok h).2

/-- **The invariant is inductive.**  Whatever `validateSnapshot` accepts keeps the invariant. -/
theorem round_inv_step {gap day : Nat} (hgap : 0 < gap) {r r' : Round} {s : Snap} {add : Bool}
    (hinv : RInv gap day r) (hw : NoWrap gap (s :: r.snaps))
    (hok : validateSnapshot gap day r s add = .ok r') : RInv gap day r' := by
  have hs := (validateSnapshot_ok hok).1
  rw [validate_spec hinv hw hs] at hok
  split at hok
  · next hc =>
    obtain ⟨hall, hnear⟩ := hc
    cases hok
    cases add
    · exact hinv
    refine ⟨?_, ?_, ?_⟩
    · exact List.pairwise_append.mpr ⟨hinv.pair, List.pairwise_singleton _ _,
        fun a ha b hb => List.mem_singleton.mp hb ▸ hall a ha⟩
    · intro a ha b hb
      rcases List.mem_append.mp ha with ha | ha <;> rcases List.mem_append.mp hb with hb | hb
      · exact hinv.span a ha b hb
      · exact List.mem_singleton.mp hb ▸ (hnear a ha).1
      · exact List.mem_singleton.mp ha ▸ (hnear b hb).2
      · rw [List.mem_singleton.mp ha, List.mem_singleton.mp hb]; omega
    · intro a ha
      rcases List.mem_append.mp ha with ha | ha
      · exact hinv.wf a ha
      · exact List.mem_singleton.mp ha ▸ hs
  · cases hok

theorem inv_empty (gap day n : Nat) : RInv gap day { number := n, snaps := [] } :=
  ⟨List.Pairwise.nil, fun _ h => (nomatch h), fun _ h => (nomatch h)⟩

theorem offer_cases (gap day : Nat) (r : Round) (s : Snap) :
    offer gap day r s = r ∨
      validateSnapshot gap day r s true = .ok (offer gap day r s) ∧
        offer gap day r s = { r with snaps := r.snaps ++ [s] } := by
  unfold offer
  split
  · next r' h => exact .inr ⟨h, accept_appends h⟩
  · exact .inl rfl

/-- `RInv` alone is not preserved along a sequence (`round_inv_step` needs `NoWrap` of what is
    stored); the two together are -/
theorem offer_inv {gap day : Nat} (hgap : 0 < gap) {r : Round} {s : Snap}
    (hinv : RInv gap day r) (hw : NoWrap gap (s :: r.snaps)) :
    RInv gap day (offer gap day r s) ∧ NoWrap gap (offer gap day r s).snaps := by
  obtain ⟨hws, hwr⟩ := List.forall_mem_cons.mp hw
  rcases offer_cases gap day r s with h | ⟨hv, h⟩
  · rw [h]; exact ⟨hinv, hwr⟩
  · refine ⟨round_inv_step hgap hinv hw hv, ?_⟩
    rw [h]
    exact List.forall_mem_append.mpr ⟨hwr, List.forall_mem_singleton.mpr hws⟩

theorem offerAll_inv {gap day : Nat} (hgap : 0 < gap) :
    ∀ (cands : List Snap) {r : Round}, RInv gap day r → NoWrap gap r.snaps → NoWrap gap cands →
      RInv gap day (offerAll gap day r cands) ∧ NoWrap gap (offerAll gap day r cands).snaps
  | [], _, hinv, hwr, _ => ⟨hinv, hwr⟩
  | _ :: t, _, hinv, hwr, hw =>
    have ⟨hws, hwt⟩ := List.forall_mem_cons.mp hw
    have ⟨h1, h2⟩ := offer_inv hgap hinv (List.forall_mem_cons.mpr ⟨hws, hwr⟩)
    offerAll_inv hgap t h1 h2 hwt

/-- **Every reachable live round satisfies the invariant**: start from the empty round
    `n`, offer any sequence of candidates in any order (accepted ones are appended, rejected
    and panicking ones are skipped). The resulting round has pairwise distinct hashes and
    timestamps, pairwise disjoint transactions, lies within one day, and spans strictly less
    than the gap. -/
theorem round_inv_reachable {gap day : Nat} (hgap : 0 < gap) (n : Nat) (cands : List Snap)
    (hw : NoWrap gap cands) :
    let r := offerAll gap day { number := n, snaps := [] } cands
    r.snaps.Pairwise (fun a b =>
        a.hash ≠ b.hash ∧ a.ts ≠ b.ts ∧ a.ts / day = b.ts / day ∧ ∀ t ∈ a.txs, t ∉ b.txs) ∧
      (∀ a ∈ r.snaps, ∀ b ∈ r.snaps, a.ts < b.ts + gap) ∧
      (r.snaps ≠ [] → maxTs r.snaps < minTs r.snaps + gap) := by
  intro r
  have h := (offerAll_inv hgap cands (inv_empty gap day n) (fun _ h => (nomatch h)) hw).1
  exact ⟨h.pair, h.span, fun hne => (span_iff_max_min hne).mp h.span⟩

/-- closing after any accepted sequence (`round_inv_reachable` and `close_never_fails` combined) -/
theorem close_after_any_sequence {gap day : Nat} (hgap : 0 < gap) (n : Nat) (cands : List Snap)
    (hw : NoWrap gap cands) :
    let r := offerAll gap day { number := n, snaps := [] } cands
    r.snaps ≠ [] → ∃ a b, asFinal gap r = .ok a b ∧ b < a + gap := by
  intro r hne
  obtain ⟨hinv, hw'⟩ := offerAll_inv hgap cands (inv_empty gap day n) (fun _ h => (nomatch h)) hw
  obtain ⟨h1, _, h3⟩ := close_never_fails hinv hne hw'
  exact ⟨_, _, h1, h3⟩

/-- **A rejected (or panicking) candidate leaves the round as it was.**  (What an accepting call
    returns, with `add` or without, is `accept_appends`.) -/
theorem reject_leaves_round {gap day : Nat} (r : Round) (s : Snap) :
    (∀ r', validateSnapshot gap day r s true ≠ .ok r') → offer gap day r s = r := by
  intro h
  rcases offer_cases gap day r s with h' | ⟨h', _⟩
  · exact h'
  · exact absurd h' (h _)

/-- The `NoWrap` hypothesis cannot be dropped: a single snapshot with `ts + gap ≥ 2^64` is
    accepted into the empty round (nothing is measured there) and the round then fails to
    close.  Replayed on the real `CacheRound` by the harness corpus. -/
theorem close_fails_when_wrapping :
    let s : Snap := { hash := 1, ts := two64 - 1, txs := [], round := 5 }
    let r := offer 3000000000 86400000000000 { number := 5, snaps := [] } s
    r.snaps = [s] ∧ asFinal 3000000000 r = .panic := by
  decide

section Examples
open Mixin.Facts.Gen

/-- the `hgap` hypothesis of the theorems holds of the regenerated `config.SnapshotRoundGap`
    (the instances below use its value and `kernel.OneDay` as the literals `g`, `d`) -/
theorem gap_pos : 0 < config_SnapshotRoundGap := Mixin.Facts.ExpectedC19.gap_pos

def g : Nat := 3000000000
def d : Nat := 86400000000000
def s1 : Snap := { hash := 11, ts := 1700000000000000000, txs := [1], round := 7 }
def s2 : Snap := { hash := 12, ts := 1700000002999999999, txs := [2, 3], round := 7 }
def s3 : Snap := { hash := 13, ts := 1700000003000000000, txs := [4], round := 7 }
def s0 : Snap := { hash := 14, ts := 1699999999999999999, txs := [5], round := 7 }
def r0 : Round := { number := 7, snaps := [] }

-- start + gap - 1 is accepted, start + gap is rejected, and after the end moved to
-- start + gap - 1 a candidate one nanosecond before the start is rejected as well
example : validateSnapshot g d r0 s1 true = .ok { number := 7, snaps := [s1] } := by decide
example : validateSnapshot g d { number := 7, snaps := [s1] } s2 true
    = .ok { number := 7, snaps := [s1, s2] } := by decide
example : validateSnapshot g d { number := 7, snaps := [s1] } s3 true = .reject := by decide
example : validateSnapshot g d { number := 7, snaps := [s1] } s0 true
    = .ok { number := 7, snaps := [s1, s0] } := by decide
example : validateSnapshot g d { number := 7, snaps := [s1, s2] } s0 true = .reject := by decide
example : asFinal g { number := 7, snaps := [s1, s2] } = .ok 1700000000000000000 1700000002999999999 := by
  decide
example : NoWrap g [s1, s2] := by
  intro a ha; simp at ha; rcases ha with h | h <;> subst h <;> decide
example : validateSnapshot g d { number := 7, snaps := [s1] } { s2 with hash := 11 } true = .reject := by
  decide
example : validateSnapshot g d { number := 7, snaps := [s1] } { s2 with txs := [9, 1] } true = .reject := by
  decide
-- day leap: 1700006400e9 is a day boundary
example : validateSnapshot g d { number := 7, snaps := [{ s1 with ts := 1700006399999999999 }] }
    { s2 with ts := 1700006400000000000 } true = .reject := by decide

end Examples

end Mixin.C19
