import Mixin.Model.Nonce
import Mixin.Facts.ExpectedC12
import Mathlib.Tactic.Ring
/-!
# C12 — a CoSi nonce never answers two different challenges

Theorems about `Mixin.Nonce` (model of crypto/nonce.go).  A run is any finite sequence of
`respond` steps on one shared state: goroutines and handle copies only decide the order of
the steps (the challenge of a call is computed from its own arguments before the lock; the
locked section is one step).  That Go's mutex makes the section atomic is an assumption, tied
by the facts `respond_lock_first` and `respond_one_lock` of `Mixin.Facts.ExpectedC12` and by the concurrent harness stream.
-/
namespace Mixin.C12
open Mixin.Cosi Mixin.Nonce

/-- the `(challenge, response)` pairs of the successful calls of a run -/
def answers : List (Option Nat × Nat) → List Outcome → List (Nat × Nat)
  | (some c, _) :: cs, .ok s :: os => (c, s) :: answers cs os
  | _ :: cs, _ :: os => answers cs os
  | _, _ => []

theorem respond_used_state (st : State) (x : Option Nat) (y : Nat) (hu : st.used = true) :
    (respond st x y).1 = st := by
  cases x with
  | none => simp [respond]
  | some c =>
    by_cases hc : st.challenge = c <;> simp [respond, hu, hc]

/-- once used, any other challenge is refused with the reuse error and
    the state is left exactly as it was. -/
theorem nonce_other_refused (st : State) (c y : Nat) (hu : st.used = true) (hc : st.challenge ≠ c) :
    respond st (some c) y = (st, Outcome.reuse) := by
  simp [respond, hu, hc]

/-- step form of `nonce_repeat_same`: the bound challenge is answered again with the cached
    response, whatever private key the caller passes, and the state is unchanged. -/
theorem nonce_repeat_step (st : State) (y : Nat) (hu : st.used = true) :
    respond st (some st.challenge) y = (st, Outcome.ok st.response) := by
  simp [respond, hu]

theorem respond_ok (st st' : State) (x : Option Nat) (y s : Nat)
    (h : respond st x y = (st', Outcome.ok s)) :
    ∃ c, x = some c ∧ st'.used = true ∧ st'.challenge = c ∧ st'.response = s := by
  cases x with
  | none => simp [respond] at h
  | some c =>
    refine ⟨c, rfl, ?_⟩
    cases hu : st.used with
    | true =>
      by_cases hc : st.challenge = c
      · simp [respond, hu, hc] at h
        obtain ⟨rfl, h2⟩ := h
        exact ⟨hu, hc, h2⟩
      · simp [respond, hu, hc] at h
    | false =>
      cases hr : st.random with
      | none => simp [respond, hu, hr] at h
      | some z =>
        simp [respond, hu, hr, response] at h
        obtain ⟨rfl, h2⟩ := h
        exact ⟨rfl, rfl, h2⟩

theorem respond_not_ok (st : State) (x : Option Nat) (y : Nat)
    (h : ∀ s, (respond st x y).2 ≠ Outcome.ok s) : (respond st x y).1 = st := by
  cases x with
  | none => simp [respond]
  | some c =>
    cases hu : st.used with
    | true => exact respond_used_state st _ y hu
    | false =>
      cases hr : st.random with
      | none => simp [respond, hu, hr]
      | some z =>
        exfalso
        apply h ((c * y + z) % ell)
        simp [respond, hu, hr, response]

/-- the first answer of a fresh nonce is `c·y + z (mod ℓ)` and wipes the secret nonce -/
theorem first_answer (z c y : Nat) :
    respond (fresh z) (some c) y =
      ({ used := true, challenge := c, response := (c * y + z) % ell, random := none },
        Outcome.ok ((c * y + z) % ell)) := by
  simp [respond, fresh, response]

theorem run_cons (st : State) (x : Option Nat) (y : Nat) (rest : List (Option Nat × Nat)) :
    run st ((x, y) :: rest) =
      ((run (respond st x y).1 rest).1, (respond st x y).2 :: (run (respond st x y).1 rest).2) :=
  rfl

theorem answers_cons_ok (c y : Nat) (cs : List (Option Nat × Nat)) (s : Nat) (os : List Outcome) :
    answers ((some c, y) :: cs) (.ok s :: os) = (c, s) :: answers cs os :=
  rfl

theorem answers_cons_not_ok (x : Option Nat) (y : Nat) (cs : List (Option Nat × Nat)) (o : Outcome)
    (os : List Outcome) (h : ∀ s, o ≠ .ok s) : answers ((x, y) :: cs) (o :: os) = answers cs os := by
  cases o with
  | ok s => exact absurd rfl (h s)
  | err => cases x <;> rfl
  | reuse => cases x <;> rfl

/-- on a used nonce every call is answered from the state alone: the run is order independent -/
theorem run_used (st : State) (hu : st.used = true) (calls : List (Option Nat × Nat)) :
    (run st calls).1 = st ∧ (run st calls).2 = calls.map (fun p => (respond st p.1 p.2).2) := by
  induction calls with
  | nil => exact ⟨rfl, rfl⟩
  | cons p rest ih =>
    obtain ⟨x, y⟩ := p
    rw [run_cons, respond_used_state st x y hu]
    exact ⟨ih.1, by rw [ih.2]; rfl⟩

/-- every answer of a run, from any state, is the pair cached in the final state: the first
    successful call binds the nonce, and a used nonce never changes again. -/
theorem answers_final (st : State) (calls : List (Option Nat × Nat)) :
    ∀ p ∈ answers calls (run st calls).2,
      (run st calls).1.used = true ∧ p = ((run st calls).1.challenge, (run st calls).1.response) := by
  induction calls generalizing st with
  | nil => intro p hp; cases hp
  | cons r rest ih =>
    obtain ⟨x, y⟩ := r
    rw [run_cons]
    intro p hp
    by_cases ho : ∃ s, (respond st x y).2 = .ok s
    · obtain ⟨s, ho⟩ := ho
      obtain ⟨c, rfl, hu, hc, hs⟩ := respond_ok st _ x y s (Prod.ext rfl ho)
      rw [ho, answers_cons_ok] at hp
      rcases List.mem_cons.1 hp with rfl | hp
      · rw [(run_used _ hu rest).1]
        exact ⟨hu, by rw [hc, hs]⟩
      · exact ih _ p hp
    · have hno := not_exists.1 ho
      rw [answers_cons_not_ok _ _ _ _ _ hno, respond_not_ok st x y hno] at hp
      rw [respond_not_ok st x y hno]
      exact ih st p hp

/-- in every run, from every state, all successful calls carry one and the
    same challenge and received one and the same response. -/
theorem answers_all_equal (st : State) (calls : List (Option Nat × Nat)) :
    ∀ p ∈ answers calls (run st calls).2, ∀ q ∈ answers calls (run st calls).2, p = q := by
  intro p hp q hq
  rw [(answers_final st calls p hp).2, (answers_final st calls q hq).2]

/-- over the whole lifetime of a nonce (any number of calls, in any
    order, through any handle copies) all answered challenges are equal. -/
theorem nonce_single_challenge (z : Nat) (calls : List (Option Nat × Nat)) :
    ∀ p ∈ answers calls (run (fresh z) calls).2, ∀ q ∈ answers calls (run (fresh z) calls).2,
      p.1 = q.1 :=
  fun p hp q hq => congrArg Prod.fst (answers_all_equal (fresh z) calls p hp q hq)

/-- … and all answers are the identical response. -/
theorem nonce_repeat_same (z : Nat) (calls : List (Option Nat × Nat)) :
    ∀ p ∈ answers calls (run (fresh z) calls).2, ∀ q ∈ answers calls (run (fresh z) calls).2,
      p.2 = q.2 :=
  fun p hp q hq => congrArg Prod.snd (answers_all_equal (fresh z) calls p hp q hq)

/-- no run offers two answers with different challenges, so the
    equation `s₁ − s₂ = (c₁ − c₂)·a` is never available to anybody. -/
theorem no_key_extraction (z : Nat) (calls : List (Option Nat × Nat)) :
    ¬ ∃ p ∈ answers calls (run (fresh z) calls).2, ∃ q ∈ answers calls (run (fresh z) calls).2,
      p.1 ≠ q.1 :=
  fun ⟨p, hp, q, hq, hne⟩ => hne (nonce_single_challenge z calls p hp q hq)

/-- after a run in which some call succeeded, every later call with another challenge is refused
    and the state stays what it was -/
theorem refused_after_answer (z : Nat) (calls : List (Option Nat × Nat)) (c s : Nat)
    (h : (c, s) ∈ answers calls (run (fresh z) calls).2) (c' y : Nat) (hne : c' ≠ c) :
    respond (run (fresh z) calls).1 (some c') y = ((run (fresh z) calls).1, Outcome.reuse) ∧
    respond (run (fresh z) calls).1 (some c) y = ((run (fresh z) calls).1, Outcome.ok s) := by
  obtain ⟨hu, he⟩ := answers_final (fresh z) calls _ h
  obtain ⟨rfl, rfl⟩ := Prod.mk.inj he
  exact ⟨nonce_other_refused _ c' y hu (fun e => hne e.symm), nonce_repeat_step _ y hu⟩

/-- why two answers would be fatal (converse, in any field, e.g. `ZMod ℓ`): from
    `sᵢ = cᵢ·a + z` for two different challenges the private scalar is `(s₁−s₂)/(c₁−c₂)`. -/
theorem two_answers_leak {F : Type} [Field F] (a z c₁ c₂ s₁ s₂ : F)
    (h₁ : s₁ = c₁ * a + z) (h₂ : s₂ = c₂ * a + z) (hne : c₁ ≠ c₂) :
    a = (s₁ - s₂) / (c₁ - c₂) := by
  rw [eq_div_iff (sub_ne_zero.mpr hne), h₁, h₂]
  ring

/-! ## chain bookkeeping (kernel/cosi.go): a nonce is handed out for one snapshot only -/

theorem lookup_cons_if (k a b : Nat) (t : List (Nat × Nat)) :
    ((a, b) :: t).lookup k = if k = a then some b else t.lookup k := by
  rw [List.lookup_cons]
  by_cases h : k = a
  · rw [if_pos h, beq_iff_eq.2 h]
  · rw [if_neg h, beq_eq_false_iff_ne.2 h]

theorem lookup_assocSet (k v k' : Nat) (l : List (Nat × Nat)) :
    (assocSet k v l).lookup k' = if k' = k then some v else l.lookup k' := by
  induction l with
  | nil => rw [assocSet, lookup_cons_if]
  | cons p t ih =>
    obtain ⟨a, b⟩ := p
    rw [assocSet]
    by_cases ha : a = k
    · subst ha
      rw [if_pos rfl, lookup_cons_if, lookup_cons_if]
      by_cases h : k' = a
      · rw [if_pos h, if_pos h]
      · rw [if_neg h, if_neg h, if_neg h]
    · rw [if_neg ha, lookup_cons_if, ih, lookup_cons_if]
      by_cases h : k' = a
      · rw [if_pos h, if_neg (h ▸ ha), if_pos h]
      · rw [if_neg h, if_neg h]

theorem assocDel_cons (k a b : Nat) (t : List (Nat × Nat)) :
    assocDel k ((a, b) :: t) = if a = k then assocDel k t else (a, b) :: assocDel k t := by
  unfold assocDel
  rw [List.filter_cons]
  by_cases h : a = k <;> simp [h]

theorem lookup_assocDel (k k' : Nat) (l : List (Nat × Nat)) :
    (assocDel k l).lookup k' = if k' = k then none else l.lookup k' := by
  induction l with
  | nil => exact (ite_self _).symm
  | cons p t ih =>
    obtain ⟨a, b⟩ := p
    rw [assocDel_cons, lookup_cons_if]
    by_cases ha : a = k
    · subst ha
      rw [if_pos rfl, ih]
      by_cases h : k' = a
      · simp only [if_pos h]
      · simp only [if_neg h]
    · rw [if_neg ha, lookup_cons_if, ih]
      by_cases h : k' = a
      · simp only [if_pos h, if_neg (h ▸ ha)]
      · simp only [if_neg h]

/-- ghost invariant: `H` lists the `(nonce, snapshot)` pairs handed out so far -/
structure BookInv (b : Book) (H : List (Nat × Nat)) : Prop where
  gone : ∀ p ∈ H, p.1 ∉ b.randoms
  retained : ∀ s c, b.used.lookup s = some c → (c, s) ∈ H
  functional : ∀ p ∈ H, ∀ q ∈ H, p.1 = q.1 → p.2 = q.2

theorem evict_lookup (maxR : Nat) (randoms : List Nat) (used : List (Nat × Nat)) (order : List Nat)
    (k v : Nat) (h : (evict maxR randoms used order).used.lookup k = some v) :
    used.lookup k = some v := by
  unfold evict at h
  split at h
  · exact h
  · split at h
    · exact h
    · rw [lookup_assocDel] at h
      split at h
      · exact absurd h (by simp)
      · exact h

theorem evict_randoms (maxR : Nat) (randoms : List Nat) (used : List (Nat × Nat)) (order : List Nat) :
    (evict maxR randoms used order).randoms = randoms := by
  unfold evict
  split
  · rfl
  · cases order <;> rfl

theorem retain_lookup (maxR : Nat) (b : Book) (snap c s c' : Nat)
    (h : (retain maxR b snap c).used.lookup s = some c') :
    (s = snap ∧ c' = c) ∨ b.used.lookup s = some c' := by
  have h := evict_lookup _ _ _ _ _ _ h
  rw [lookup_assocSet] at h
  split at h
  · exact Or.inl ⟨‹s = snap›, (Option.some.inj h).symm⟩
  · exact Or.inr h

theorem retain_randoms (maxR : Nat) (b : Book) (snap c : Nat) :
    (retain maxR b snap c).randoms = b.randoms :=
  evict_randoms _ _ _ _

theorem retrieve_retained (maxR : Nat) (b : Book) (snap c : Nat)
    (h : b.used.lookup snap = some c) : retrieve maxR b snap c = (b, some c) :=
  if_pos h

theorem retrieve_unused (maxR : Nat) (b : Book) (snap c : Nat)
    (h1 : b.used.lookup snap ≠ some c) (h2 : c ∈ b.randoms) :
    retrieve maxR b snap c =
      ({ retain maxR b snap c with randoms := (retain maxR b snap c).randoms.filter (· ≠ c) },
        some c) := by
  unfold retrieve
  rw [if_neg h1, if_pos (List.contains_iff_mem.2 h2)]

theorem retrieve_unknown (maxR : Nat) (b : Book) (snap c : Nat)
    (h1 : b.used.lookup snap ≠ some c) (h2 : c ∉ b.randoms) : retrieve maxR b snap c = (b, none) := by
  unfold retrieve
  rw [if_neg h1, if_neg (fun h => h2 (List.contains_iff_mem.1 h))]

/-- one `cosiRetrieveRandom` step preserves the invariant; a handed-out nonce is recorded -/
theorem retrieve_inv (maxR : Nat) (b : Book) (H : List (Nat × Nat)) (snap c : Nat)
    (inv : BookInv b H) :
    BookInv (retrieve maxR b snap c).1
      (match (retrieve maxR b snap c).2 with | some k => (k, snap) :: H | none => H) := by
  by_cases h1 : b.used.lookup snap = some c
  · -- the retained nonce is handed out again: the record gains a pair it already has
    rw [retrieve_retained maxR b snap c h1]
    have hmem : ∀ p ∈ (c, snap) :: H, p ∈ H :=
      List.forall_mem_cons.2 ⟨inv.retained snap c h1, fun _ hp => hp⟩
    exact ⟨fun p hp => inv.gone p (hmem p hp),
      fun s c' h => List.mem_cons_of_mem _ (inv.retained s c' h),
      fun p hp q hq => inv.functional p (hmem p hp) q (hmem q hq)⟩
  · by_cases hc : c ∈ b.randoms
    · -- an unused nonce: no recorded pair mentions it
      rw [retrieve_unused maxR b snap c h1 hc]
      have hfresh : ∀ p ∈ H, p.1 ≠ c := fun p hp e => inv.gone p hp (e ▸ hc)
      refine ⟨?_, ?_, ?_⟩
      · intro p hp
        show p.1 ∉ (retain maxR b snap c).randoms.filter (· ≠ c)
        rw [retain_randoms]
        rcases List.mem_cons.1 hp with rfl | hp
        · simp
        · exact fun hm => inv.gone p hp (List.mem_filter.1 hm).1
      · intro s c' h
        rcases retain_lookup maxR b snap c s c' h with ⟨rfl, rfl⟩ | h
        · exact List.mem_cons_self
        · exact List.mem_cons_of_mem _ (inv.retained s c' h)
      · intro p hp q hq hpq
        rcases List.mem_cons.1 hp with rfl | hp
        · rcases List.mem_cons.1 hq with rfl | hq
          · rfl
          · exact absurd hpq.symm (hfresh q hq)
        · rcases List.mem_cons.1 hq with rfl | hq
          · exact absurd hpq (hfresh p hp)
          · exact inv.functional p hp q hq hpq
    · rw [retrieve_unknown maxR b snap c h1 hc]
      exact inv

/-- a run of `cosiRetrieveRandom` calls `(snapshot, commitment)`; returns the final book and the
    `(nonce, snapshot)` pairs handed out, latest first -/
def runBook (maxR : Nat) : Book → List (Nat × Nat) → List (Nat × Nat) → Book × List (Nat × Nat)
  | b, [], H => (b, H)
  | b, (snap, c) :: rest, H =>
    let r := retrieve maxR b snap c
    runBook maxR r.1 rest (match r.2 with | some k => (k, snap) :: H | none => H)

theorem runBook_inv (maxR : Nat) (b : Book) (ops : List (Nat × Nat)) (H : List (Nat × Nat))
    (inv : BookInv b H) : BookInv (runBook maxR b ops H).1 (runBook maxR b ops H).2 := by
  induction ops generalizing b H with
  | nil => exact inv
  | cons op rest ih =>
    obtain ⟨snap, c⟩ := op
    exact ih _ _ (retrieve_inv maxR b H snap c inv)

/-- starting from a chain with unused nonces only, whatever sequence of
    challenges arrives (for any retention bound), a nonce is never handed out for two different
    snapshots: it leaves `CosiRandoms` when first handed out and is afterwards only reachable
    through `UsedRandoms[snapshot]`. -/
theorem retrieve_binds (maxR : Nat) (randoms : List Nat) (hnd : randoms.Nodup) (ops : List (Nat × Nat)) :
    ∀ p ∈ (runBook maxR { randoms := randoms, used := [], order := [] } ops []).2,
    ∀ q ∈ (runBook maxR { randoms := randoms, used := [], order := [] } ops []).2,
      p.1 = q.1 → p.2 = q.2 :=
  -- `hnd` does no work: handing out `c` filters every copy of it out of `randoms`
  (runBook_inv maxR _ ops [] ⟨by simp, by simp [List.lookup], by simp⟩).functional

/-- the nonce handed out is the one whose commitment was asked for -/
theorem retrieve_commitment (maxR : Nat) (b : Book) (snap c k : Nat)
    (h : (retrieve maxR b snap c).2 = some k) : k = c := by
  by_cases h1 : b.used.lookup snap = some c
  · rw [retrieve_retained maxR b snap c h1] at h
    exact (Option.some.inj h).symm
  · by_cases hc : c ∈ b.randoms
    · rw [retrieve_unused maxR b snap c h1 hc] at h
      exact (Option.some.inj h).symm
    · rw [retrieve_unknown maxR b snap c h1 hc] at h
      exact absurd h (by simp)

example : (runBook 2 { randoms := [1, 2, 3], used := [], order := [] }
    [(10, 1), (10, 1), (11, 1), (11, 2), (12, 3), (10, 1)] []).2 = [(3, 12), (2, 11), (1, 10), (1, 10)] := by
  decide

example : (run (fresh 7) [(some 3, 5), (some 4, 5), (none, 5), (some 3, 9)]).2 =
    [Outcome.ok 22, Outcome.reuse, Outcome.err, Outcome.ok 22] := by decide

example : answers [(some 3, 5), (some 4, 5), (none, 5), (some 3, 9)]
    (run (fresh 7) [(some 3, 5), (some 4, 5), (none, 5), (some 3, 9)]).2 = [(3, 22), (3, 22)] := by decide

end Mixin.C12
