import Mixin.Proofs.Validate
/-!
  C01 — accepted transactions conserve value within one asset.

  `validate L O tx fork = accept i o` is the model of `VersionedTransaction.Validate` returning
  nil (lean/Mixin/Model/Validate.lean). The theorems hold for every ledger view, every oracle
  and every transaction: no hypothesis besides acceptance.
-/
namespace Mixin.C01
open Mixin.Validate

theorem accept_iff {L O tx fork i o} :
    validate L O tx fork = .accept i o ↔ validateM L O tx fork = .ok (i, o) := by
  unfold validate
  split <;> simp_all

theorem panic_iff {L O tx fork s} :
    validate L O tx fork = .panic s ↔ validateM L O tx fork = .error (.panic s) := by
  unfold validate
  split <;> simp_all

/-- `UnspentOutputs` (common/utxo.go): every materialised output carries the transaction's asset -/
def materialise (tx : Tx) : List Utxo :=
  (tx.outputs.zipIdx.filter (fun p => p.1.type != otWithdrawalSubmit && p.1.type != otCustodianSlash)).map
    (fun p => { hash := tx.hash, index := p.2, type := p.1.type, asset := tx.asset, amount := p.1.amount,
                keys := p.1.keys, mask := p.1.mask, script := p.1.script, lock := 0 })

/-- the early return of `validateInputs` (mint / deposit input) only survives in a transaction
    with exactly one input, because the accepting mint and deposit validators demand it -/
theorem early_single {L O tx fork f i fl}
    (hl : inputsLoop L tx (txType tx) fork 0 tx.inputs {} = .ok (.early fl i))
    (hd : dispatch L O tx (txType tx) f = .ok ()) :
    ∃ x, tx.inputs = [x] ∧ i = inputAmount L x ∧ (x.mint.isSome ∨ x.deposit.isSome) := by
  obtain ⟨pre, x, post, he, _, hx, ha⟩ := loop_early _ _ _ _ _ hl
  obtain ⟨y, hy⟩ : ∃ y, tx.inputs = [y] := by
    rcases early_type hl with htt | htt <;> rw [htt] at hd
    · exact validateMint_one hd
    · exact validateDeposit_one hd
  have hmem : x ∈ tx.inputs := he ▸ List.mem_append_right _ List.mem_cons_self
  rw [hy] at hmem
  cases List.mem_singleton.1 hmem
  exact ⟨x, hy, ha, hx⟩

/-- A transaction accepted by `Validate`:
    (i) every ordinary input (no mint, no deposit data) is an existing output of `tx.asset`;
    (ii) the reported input amount is the sum over *all* inputs (spent outputs, deposit, mint),
         the reported output amount is the sum of all outputs, and the two are equal;
    (iii) the sum is positive; (iv) every output amount is positive. -/
theorem validate_conserves {L O tx fork i o} (h : validate L O tx fork = .accept i o) :
    (∀ inp ∈ tx.inputs, inp.mint = none → inp.deposit = none →
        ∃ u, L.utxo inp.hash inp.index = some u ∧ u.asset = tx.asset) ∧
    (tx.inputs.map (inputAmount L)).sum = i ∧
    (tx.outputs.map (·.amount)).sum = o ∧
    i = o ∧ 0 < i ∧ ∀ out ∈ tx.outputs, 0 < out.amount := by
  obtain ⟨_, _, f, hin, hpos, hout, hd⟩ := validateM_ok (accept_iff.1 h)
  obtain ⟨hsum, hio, hop⟩ := validateOutputs_ok hout
  rw [← and_assoc]
  refine ⟨?_, hsum.symm, hio, Nat.pos_of_ne_zero hpos, hop⟩
  rcases validateInputs_ok hin with ⟨fl, hl⟩ | ⟨a, hl, _, ha⟩
  · obtain ⟨x, hx, hamt, hsp⟩ := early_single hl hd
    rw [hx]
    refine ⟨fun inp hinp hm hdp => ?_, by simp [hamt]⟩
    cases List.mem_singleton.1 hinp
    simp [hm, hdp] at hsp
  · obtain ⟨hs, hall⟩ := loopSpec_sum _ _ _ _ (loop_full _ _ _ _ hl)
    exact ⟨fun inp hinp _ _ => (hall inp hinp).2, by rw [ha, hs]; exact (Nat.zero_add _).symm⟩

/-- No stored output is counted twice: the (hash, index) references
    of an accepted transaction's inputs are pairwise different. -/
theorem validate_inputs_distinct {L O tx fork i o} (h : validate L O tx fork = .accept i o) :
    (tx.inputs.map inputKey).Nodup := by
  obtain ⟨_, _, f, hin, _, _, hd⟩ := validateM_ok (accept_iff.1 h)
  rcases validateInputs_ok hin with ⟨fl, hl⟩ | ⟨a, hl, _, _⟩
  · obtain ⟨x, hx, _, _⟩ := early_single hl hd
    simp [hx]
  · obtain ⟨h1, h2⟩ := loop_filter_nodup _ _ _ _ hl
    simpa [h1] using h2 (by simp)

/-- All value an accepted transaction reads from the ledger and all
    outputs it materialises carry `tx.asset`; a mint creates XIN only. -/
theorem validate_single_asset {L O tx fork i o} (h : validate L O tx fork = .accept i o) :
    (∀ inp ∈ tx.inputs, inp.mint = none → inp.deposit = none →
        ∃ u, L.utxo inp.hash inp.index = some u ∧ u.asset = tx.asset) ∧
    (∀ u ∈ materialise tx, u.asset = tx.asset) ∧
    (txType tx = ttMint → tx.asset = xin) := by
  refine ⟨(validate_conserves h).1, ?_, ?_⟩
  · intro u hu
    simp only [materialise, List.mem_map] at hu
    obtain ⟨p, _, rfl⟩ := hu
    rfl
  · intro htt
    obtain ⟨_, _, f, _, _, _, hm⟩ := validateM_ok (accept_iff.1 h)
    rw [htt, dispatch_mint] at hm
    unfold validateMint at hm
    split at hm
    · simpa using (guardRej_bind_ok.1 (guardRej_bind_ok.1 hm).2).1
    · cases hm

/-- "Moves exactly one asset" for deposits: when the asset id of an
    accepted deposit is already bound to a token, the deposit names exactly that token — same
    chain and the same asset key (identifiers are interned byte strings: equality is byte-exact,
    not case-insensitive). -/
theorem deposit_matches_bound_asset {L O tx fork i o old}
    (h : validate L O tx fork = .accept i o) (ht : txType tx = ttDeposit)
    (hold : L.asset tx.asset = some old) :
    ∃ x d, tx.inputs = [x] ∧ x.deposit = some d ∧ old.chain = d.chain ∧ old.assetKey = d.assetKey := by
  obtain ⟨_, _, f, _, _, _, hv⟩ := validateM_ok (accept_iff.1 h)
  rw [ht, dispatch_deposit] at hv
  obtain ⟨x, hx⟩ := validateDeposit_one hv
  obtain ⟨d, hdep⟩ := Option.isSome_iff_exists.1 ((single_input_type hx).2 ht)
  refine ⟨x, d, hx, hdep, ?_⟩
  unfold validateDeposit at hv
  simp only [guardRej_bind_ok] at hv
  obtain ⟨_, _, _, hv⟩ := hv
  split at hv
  · cases hv
  · obtain ⟨_, hvd, _⟩ := bind_ok.1 hv
    unfold verifyDepositData at hvd
    simp only [hx, List.head?_cons, hdep, hold, guardRej_bind_ok] at hvd
    obtain ⟨_, _, _, hvd⟩ := hvd
    split at hvd
    · cases hvd
    · simpa using (guardRej_bind_ok.1 hvd).2

/-- the ledger invariant "stored outputs have positive amounts" (hypothesis `utxoPos` of
    C05.validate_total) is preserved by materialising an accepted transaction's outputs -/
theorem materialise_pos {L O tx fork i o} (h : validate L O tx fork = .accept i o) :
    ∀ u ∈ materialise tx, 0 < u.amount := by
  intro u hu
  simp only [materialise, List.mem_map, List.mem_filter] at hu
  obtain ⟨p, ⟨hp, _⟩, rfl⟩ := hu
  obtain ⟨_, _, _, _, _, hpos⟩ := validate_conserves h
  exact hpos p.1 (List.fst_mem_of_mem_zipIdx hp)

/-! ### Non-vacuity: the model accepts a 2-in / 3-out transfer, a deposit and a mint -/
namespace Example
open Mixin.Validate

def thr (n : Nat) : List Nat := [255, 254, n]

def oracle : Oracle :=
  { checkKey := fun k => 100 ≤ k && k < 200
    verify := fun k s => s == k + 1000
    aggVerify := fun _ _ _ => false
    claimSig := false, updParse := none, updSig := false, scalarOk := false, ghostEq := false }

def ledger : Ledger :=
  { utxos := [
      { hash := 10, index := 0, type := 0, asset := 7, amount := 20, keys := [101, 102], mask := 110, script := thr 2, lock := 0 },
      { hash := 11, index := 1, type := 0, asset := 7, amount := 10, keys := [103], mask := 111, script := thr 1, lock := 0 }],
    custodian := some { key := 150, addr := 50, nodes := [] },
    assets := [{ id := 8, chain := 8, assetKey := 60, balance := 5 }] }

def out (amount key mask : Nat) : Output :=
  { type := 0, amount := amount, keys := [key], mask := mask, script := thr 1, withdrawal := false }

def base : Tx :=
  { version := 5, asset := 7, inputs := [], outputs := [], references := [], extraLen := 0, extraId := 2,
    extra64 := 3, extraSpend := 0, sigs := none, agg := none, hash := 9, payloadSize := 300, cap := 1000 }

def transfer : Tx :=
  { base with
    inputs := [{ hash := 10, index := 0, genesis := false, deposit := none, mint := none },
               { hash := 11, index := 1, genesis := false, deposit := none, mint := none }],
    outputs := [out 15 120 130, out 10 121 131, out 5 122 132],
    sigs := some [[(0, 1101), (1, 1102)], [(0, 1103)]] }

example : validate ledger oracle transfer false = .accept 30 30 := by decide +kernel

def depositTx : Tx :=
  { base with
    asset := 8,
    inputs := [{ hash := 0, index := 0, genesis := false, mint := none,
                 deposit := some { chain := 8, assetKeyOk := true, assetKey := 60, txOk := true, uniq := 70, amount := 40 } }],
    outputs := [out 40 123 133],
    sigs := some [[(0, 1150)]] }

example : validate ledger oracle depositTx false = .accept 40 40 := by decide +kernel

def mintTx : Tx :=
  { base with
    asset := xin,
    inputs := [{ hash := 0, index := 0, genesis := false, deposit := none,
                 mint := some { universal := true, batch := 3, amount := 12 } }],
    outputs := [out 7 124 134, out 5 125 135],
    sigs := some [[(0, 1)]] }

example : validate ledger oracle mintTx false = .accept 12 12 := by decide +kernel

-- one unit more on an output, or a foreign-asset input, is rejected
example : validate ledger oracle { transfer with outputs := [out 16 120 130, out 10 121 131, out 5 122 132] } false = .reject := by decide +kernel
example : validate ledger oracle { transfer with asset := 8 } false = .reject := by decide +kernel

end Example
end Mixin.C01
