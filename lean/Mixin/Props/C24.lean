import Mixin.Model.Requeue
import Mixin.Facts.ExpectedC24
/-!
  C24 — retiring a local proposal never loses a pending transaction; a transaction owned by a
  still-active proposal is not re-queued.

  Model: `Mixin.Requeue` (kernel/cosi.go bookkeeping + kernel/queue.go requeueTransactions).
  "pending" = not finalized and with a body (store or cache); "eligible" = in the cache queue.
-/
namespace Mixin.C24
open Mixin.Requeue

def pending (st : St) (x : Nat) : Prop := x ∉ st.finalized ∧ x ∈ st.bodies

/-- aggregator keys are unique (they are the keys of a Go map) -/
def UniqueKeys (st : St) : Prop := st.aggs.Pairwise (fun a b => a.snap.hash ≠ b.snap.hash)

/-- no transaction belongs to two local proposals -/
def DisjointAggs (st : St) : Prop :=
  ∀ a ∈ st.aggs, ∀ b ∈ st.aggs, ∀ x, x ∈ a.snap.txs → x ∈ b.snap.txs → a.snap.hash = b.snap.hash

/-- membership in an accumulator built by a fold whose step only adds: `Q a` is what step `a` adds -/
theorem mem_foldl_iff {β : Type} {f : List Nat → β → List Nat} {Q : β → Nat → Prop}
    (hf : ∀ acc a x, x ∈ f acc a ↔ x ∈ acc ∨ Q a x) (l : List β) (acc : List Nat) (x : Nat) :
    x ∈ l.foldl f acc ↔ x ∈ acc ∨ ∃ a ∈ l, Q a x := by
  induction l generalizing acc with
  | nil => simp
  | cons a t ih =>
    rw [List.foldl_cons, ih, hf]
    simp only [List.mem_cons, exists_eq_or_imp, or_assoc]

theorem mem_foldl_push {f : List Nat → Nat → List Nat} {P : Nat → Prop}
    (hf : ∀ acc a x, x ∈ f acc a ↔ x ∈ acc ∨ (x = a ∧ P a)) (l acc : List Nat) (x : Nat) :
    x ∈ l.foldl f acc ↔ x ∈ acc ∨ (x ∈ l ∧ P x) :=
  (mem_foldl_iff hf l acc x).trans (or_congr_right
    ⟨fun ⟨_, ha, e, hp⟩ => e ▸ ⟨ha, hp⟩, fun ⟨hx, hp⟩ => ⟨x, hx, rfl, hp⟩⟩)

theorem requeue1_mem (fin b q : List Nat) (h x : Nat) :
    x ∈ requeue1 fin b q h ↔ x ∈ q ∨ (x = h ∧ h ∉ fin ∧ h ∈ b) := by
  unfold requeue1
  by_cases h1 : h ∈ fin
  · simp [h1]
  by_cases h2 : h ∈ b
  · by_cases h3 : h ∈ q
    · simpa [h1, h2, h3] using fun e => e ▸ h3
    · simp [h1, h2, h3]
  · simp [h1, h2]

/-- what `requeueTransactions` does to the queue: nothing leaves it; exactly the listed
    transactions that are pending enter it -/
theorem requeue_mem (st : St) (hs : List Nat) (x : Nat) :
    x ∈ (requeue st hs).queue ↔ x ∈ st.queue ∨ (x ∈ hs ∧ pending st x) :=
  mem_foldl_push (requeue1_mem st.finalized st.bodies) hs st.queue x

@[simp] theorem requeue_fin (st : St) (hs) : (requeue st hs).finalized = st.finalized := rfl
@[simp] theorem requeue_bodies (st : St) (hs) : (requeue st hs).bodies = st.bodies := rfl
@[simp] theorem requeue_aggs (st : St) (hs) : (requeue st hs).aggs = st.aggs := rfl
@[simp] theorem requeue_vers (st : St) (hs) : (requeue st hs).vers = st.vers := rfl
@[simp] theorem abandon_fin (st : St) (s) : (abandon st s).finalized = st.finalized := rfl
@[simp] theorem abandon_bodies (st : St) (s) : (abandon st s).bodies = st.bodies := rfl
@[simp] theorem abandon_queue (st : St) (s) : (abandon st s).queue = st.queue := rfl
@[simp] theorem abandon_aggs (st : St) (s : Snap) :
    (abandon st s).aggs = st.aggs.filter (fun a => !(a.snap.hash == s.hash)) := rfl

theorem retry_queue_mem (st : St) (s : Snap) (x : Nat) :
    x ∈ (retry st s).queue ↔ x ∈ st.queue ∨ (x ∈ s.txs ∧ pending st x) :=
  requeue_mem (abandon st s) s.txs x

theorem retry_aggs_mem (st : St) (s : Snap) (a : Agg) :
    a ∈ (retry st s).aggs ↔ a ∈ st.aggs ∧ a.snap.hash ≠ s.hash := by
  show a ∈ st.aggs.filter _ ↔ _
  simp only [List.mem_filter, Bool.not_eq_true', beq_eq_false_iff_ne]

/-- **retry_no_loss**: after `retryCosiSnapshot(s)` every transaction of `s` that is still
    unfinalized and still has a body is eligible again, the proposal is gone, and nothing that
    was eligible stopped being so. -/
theorem retry_no_loss (st : St) (s : Snap) :
    (∀ x ∈ s.txs, pending st x → x ∈ (retry st s).queue) ∧
    (∀ a ∈ (retry st s).aggs, a.snap.hash ≠ s.hash) ∧
    (∀ x ∈ st.queue, x ∈ (retry st s).queue) :=
  ⟨fun x hx hp => (retry_queue_mem st s x).mpr (.inr ⟨hx, hp⟩),
    fun a ha => ((retry_aggs_mem st s a).mp ha).2,
    fun x hx => (retry_queue_mem st s x).mpr (.inl hx)⟩

/-- conversely, only the retried proposal's own pending transactions become eligible -/
theorem retry_newly_queued (st : St) (s : Snap) (x : Nat)
    (hx : x ∈ (retry st s).queue) (hn : x ∉ st.queue) : x ∈ s.txs ∧ pending st x :=
  ((retry_queue_mem st s x).mp hx).resolve_left hn

theorem mem_of_mem_dropOwn (v : Option Nat) :
    ∀ (txs : List Nat) (m : List (Nat × Ver)) {e : Nat × Ver}, e ∈ dropOwn v m txs → e ∈ m
  | [], _, _, he => he
  | t :: ts, m, e, he => by
    have := mem_of_mem_dropOwn v ts (if (lookup m t).map (·.id) == v then erase m t else m) he
    split at this
    · exact (List.mem_filter.mp this).1
    · exact this

/-- `abandonCosiSnapshot` alone (a deferred or abandoned proposal whose caller requeues
    explicitly) neither queues nor unqueues anything, and removes only verifier entries -/
theorem abandon_spec (st : St) (s : Snap) :
    (abandon st s).queue = st.queue ∧ (∀ a ∈ (abandon st s).aggs, a ∈ st.aggs ∧ a.snap.hash ≠ s.hash) ∧
    (∀ e ∈ (abandon st s).vers, e ∈ st.vers) :=
  ⟨rfl, fun a ha => (retry_aggs_mem st s a).mp ha,
    fun _ he => (List.mem_filter.mp (mem_of_mem_dropOwn _ s.txs _ he)).1⟩

theorem expireOver_eq (now gap : Nat) (order : List Agg) (st : St) :
    expireOver now gap order st =
      (order.filter (expirable now gap)).foldl (fun st a => retry st a.snap) st :=
  List.foldl_filter.symm

theorem retry_foldl_spec (l : List Agg) (st : St) :
    (l.foldl (fun st a => retry st a.snap) st).finalized = st.finalized ∧
    (l.foldl (fun st a => retry st a.snap) st).bodies = st.bodies ∧
    (∀ x, x ∈ (l.foldl (fun st a => retry st a.snap) st).queue ↔
      x ∈ st.queue ∨ ∃ a ∈ l, x ∈ a.snap.txs ∧ pending st x) ∧
    (∀ b, b ∈ (l.foldl (fun st a => retry st a.snap) st).aggs ↔
      b ∈ st.aggs ∧ ∀ a ∈ l, a.snap.hash ≠ b.snap.hash) := by
  induction l generalizing st with
  | nil => simp
  | cons a t ih =>
    obtain ⟨h1, h2, h3, h4⟩ := ih (retry st a.snap)
    have pf : ∀ x, pending (retry st a.snap) x ↔ pending st x := fun _ => Iff.rfl
    refine ⟨h1, h2, fun x => ?_, fun b => ?_⟩
    · rw [List.foldl_cons, h3, retry_queue_mem]
      simp only [pf, List.mem_cons, exists_eq_or_imp, or_assoc]
    · rw [List.foldl_cons, h4, retry_aggs_mem]
      simp only [List.mem_cons, forall_eq_or_imp, and_assoc, ne_comm]

theorem expireOver_inv (now gap : Nat) (order : List Agg) (st : St) :
    (expireOver now gap order st).finalized = st.finalized ∧
    (expireOver now gap order st).bodies = st.bodies ∧
    (∀ x, x ∈ (expireOver now gap order st).queue ↔
      x ∈ st.queue ∨ ∃ a ∈ order, expirable now gap a = true ∧ x ∈ a.snap.txs ∧ pending st x) ∧
    (∀ b, b ∈ (expireOver now gap order st).aggs ↔
      b ∈ st.aggs ∧ ∀ a ∈ order, expirable now gap a = true → a.snap.hash ≠ b.snap.hash) := by
  rw [expireOver_eq]
  obtain ⟨h1, h2, h3, h4⟩ := retry_foldl_spec (order.filter (expirable now gap)) st
  refine ⟨h1, h2, fun x => ?_, fun b => ?_⟩
  · rw [h3]; simp only [List.mem_filter, and_assoc]
  · rw [h4]; simp only [List.mem_filter, and_imp]

theorem expire_queue_mem (now gap : Nat) (st : St) (x : Nat) :
    x ∈ (expire now gap st).queue ↔ x ∈ st.queue ∨
      ∃ a ∈ st.aggs, expirable now gap a = true ∧ x ∈ a.snap.txs ∧ pending st x :=
  (expireOver_inv now gap st.aggs st).2.2.1 x

theorem expire_aggs_mem (now gap : Nat) (st : St) (b : Agg) :
    b ∈ (expire now gap st).aggs ↔
      b ∈ st.aggs ∧ ∀ a ∈ st.aggs, expirable now gap a = true → a.snap.hash ≠ b.snap.hash :=
  (expireOver_inv now gap st.aggs st).2.2.2 b

theorem unique_eq {l : List Agg} (h : l.Pairwise (fun a b => a.snap.hash ≠ b.snap.hash))
    {a b : Agg} (ha : a ∈ l) (hb : b ∈ l) (e : a.snap.hash = b.snap.hash) : a = b :=
  List.Pairwise.forall_of_forall_of_flip (R := fun a b => a.snap.hash = b.snap.hash → a = b)
    (fun _ _ _ => rfl) (h.imp fun hne e => absurd e hne) (h.imp fun hne e => absurd e.symm hne) ha hb e

/-- **expire_no_loss**: every proposal that `expireCosiAggregators(now)` retired (it was in the
    map before and its key is not there afterwards) has all its pending transactions in the
    cache queue afterwards; this holds for every iteration order of the map. -/
theorem expire_no_loss (now gap : Nat) (st : St) (huniq : UniqueKeys st) (a : Agg) (ha : a ∈ st.aggs)
    (hret : ∀ b ∈ (expire now gap st).aggs, b.snap.hash ≠ a.snap.hash) :
    ∀ x ∈ a.snap.txs, pending st x → x ∈ (expire now gap st).queue := by
  intro x hx hp
  by_cases hee : expirable now gap a = true
  · exact (expire_queue_mem now gap st x).mpr (.inr ⟨a, ha, hee, hx, hp⟩)
  · -- otherwise `a` stays: only an expirable aggregator with its key, by uniqueness `a` itself, could remove it
    refine absurd rfl (hret a ((expire_aggs_mem now gap st a).mpr ⟨ha, fun e he hee' heq => ?_⟩))
    cases unique_eq huniq he ha heq
    exact absurd hee' hee

/-- **complete_not_expired**: a proposal that has its commitment threshold and every
    corresponding response, or whose round gap has not elapsed, is not retired -/
theorem complete_not_expired (now gap : Nat) (st : St) (huniq : UniqueKeys st) (a : Agg) (ha : a ∈ st.aggs)
    (hc : (a.commitments ≥ a.base ∧ a.responses = a.commitments) ∨ now < a.snap.ts + gap) :
    a ∈ (expire now gap st).aggs := by
  refine (expire_aggs_mem now gap st a).mpr ⟨ha, fun e he hee heq => ?_⟩
  cases unique_eq huniq he ha heq
  unfold expirable at hee
  rcases hc with ⟨h1, h2⟩ | h3
  · simp [h1, h2] at hee
  · simp [h3] at hee

/-- whatever becomes eligible through an expiry pass is a pending transaction of a proposal
    that this pass retired (unconditional) -/
theorem expire_newly_queued (now gap : Nat) (st : St) (x : Nat)
    (hx : x ∈ (expire now gap st).queue) (hn : x ∉ st.queue) :
    ∃ a ∈ st.aggs, expirable now gap a = true ∧ x ∈ a.snap.txs ∧ pending st x ∧
      ∀ b ∈ (expire now gap st).aggs, b.snap.hash ≠ a.snap.hash := by
  obtain ⟨a, ha, hae, hax, hp⟩ := ((expire_queue_mem now gap st x).mp hx).resolve_left hn
  exact ⟨a, ha, hae, hax, hp, fun b hb =>
    (((expire_aggs_mem now gap st b).mp hb).2 a ha hae).symm⟩

/-- **active_not_requeued (partial).**  Full statement, FALSE of the code:
      ∀ st now x, x ∈ (expire now gap st).queue → x ∉ st.queue →
        ¬ ∃ b ∈ (expire now gap st).aggs, x ∈ b.snap.txs
  for every state the node can reach. `overlap_reachable` below reaches, through the duplicate
  guard of cosiSendAnnouncement exactly as coded, a state with two local proposals sharing a
  transaction (the guard lapses at ts₁ + SnapshotRoundGap, the instant the first becomes
  expirable), and `active_not_requeued_counterexample` shows expiry re-queueing the shared
  transaction while the second proposal is active. What is proved instead is the statement
  under the hypothesis that proposals are disjoint. -/
theorem active_not_requeued_partial (now gap : Nat) (st : St) (hdis : DisjointAggs st) (x : Nat)
    (hx : x ∈ (expire now gap st).queue) (hn : x ∉ st.queue) :
    ¬ ∃ b ∈ (expire now gap st).aggs, x ∈ b.snap.txs := by
  obtain ⟨a, ha, -, hax, -, hret⟩ := expire_newly_queued now gap st x hx hn
  rintro ⟨b, hb, hbx⟩
  have hb0 : b ∈ st.aggs := ((expire_aggs_mem now gap st b).mp hb).1
  exact hret b hb (hdis b hb0 a ha x hbx hax)

def T0 : Nat := 1800000000000000000
def s1 : Snap := { hash := 1001, round := 2, ts := T0, txs := [7] }
def s2 : Snap := { hash := 1002, round := 2, ts := T0 + roundGap, txs := [7] }
def st0 : St := { bodies := [7] }
/-- first proposal installed; the transaction is queued again from outside (RPC resubmission or
    a peer bundle: `QueueTransaction` / `CacheQueueTransactions`), popped, and proposed again one
    round gap later, before the poll loop reached `expireCosiAggregators` -/
def st2 : St := announce roundGap (announce roundGap st0 s1 0 5) s2 1 5

/-- the guard admits the second proposal: both are installed and share transaction 7 -/
theorem overlap_reachable :
    st2.aggs.map (·.snap.hash) = [1002, 1001] ∧ (lookup st2.vers 7).map (·.id) = some 1 ∧
    ¬ DisjointAggs st2 ∧ UniqueKeys st2 := by
  refine ⟨by decide, by decide, ?_, by unfold UniqueKeys; decide⟩
  intro h
  have := h ⟨s2, 1, 0, 5⟩ (by decide) ⟨s1, 1, 0, 5⟩ (by decide) 7 (by decide) (by decide)
  revert this; decide

/-- one instant later the first proposal expires: its transaction is re-queued although the
    second proposal, still active and incomplete, owns it — the negation of the full statement -/
theorem active_not_requeued_counterexample :
    let st3 := expire (T0 + roundGap) roundGap st2
    st2.queue = [] ∧ st3.queue = [7] ∧ st3.aggs.map (·.snap.hash) = [1002] ∧
    (∃ b ∈ st3.aggs, 7 ∈ b.snap.txs) := by
  refine ⟨by decide, by decide, by decide, ⟨⟨s2, 1, 0, 5⟩, by decide, by decide⟩⟩

-- one nanosecond earlier the guard still holds: the duplicate is refused and nothing is installed
example : (announce roundGap (announce roundGap st0 s1 0 5) { s2 with ts := T0 + roundGap - 1 } 1 5).aggs.map (·.snap.hash)
    = [1001] := by decide

/-- **deferred_no_loss**: a self proposal that `prepareAnnouncement` defers (not after the round
    timestamp, after the 4/5 round-gap cutoff, or across the UTC day boundary of the open round)
    installs nothing and every pending transaction of its batch is eligible afterwards. -/
theorem deferred_no_loss (gap : Nat) (st : St) (s : Snap) (vid base roundTs cft : Nat)
    (hdef : s.ts ≤ roundTs ∨ s.ts > cft + gap * 4 / 5 ∨ s.ts / oneDay ≠ cft / oneDay) :
    (announceAt gap st s vid base roundTs cft).aggs = st.aggs ∧
    (announceAt gap st s vid base roundTs cft).vers = st.vers ∧
    ∀ x ∈ s.txs, pending st x → x ∈ (announceAt gap st s vid base roundTs cft).queue := by
  have h : announceAt gap st s vid base roundTs cft = requeue st s.txs := by
    unfold announceAt
    rcases hdef with h | h | h <;> simp only [if_pos h, ite_self]
  rw [h]
  exact ⟨rfl, rfl, fun x hx hp => (requeue_mem st s.txs x).mpr (.inr ⟨hx, hp⟩)⟩

/-- a proposal refused by the duplicate guard hands back every pending transaction that no
    existing proposal guards -/
theorem guarded_no_loss (gap : Nat) (st : St) (s : Snap) (vid base : Nat)
    (hg : s.txs.any (guarded gap st.vers s) = true) :
    (announce gap st s vid base).aggs = st.aggs ∧
    ∀ x ∈ s.txs, guarded gap st.vers s x = false → pending st x → x ∈ (announce gap st s vid base).queue := by
  unfold announce
  rw [if_pos hg]
  exact ⟨rfl, fun x hx hgx hp => (requeue_mem st _ x).mpr
    (.inr ⟨List.mem_filter.mpr ⟨hx, by rw [hgx]; rfl⟩, hp⟩)⟩

/-- **abandoned_no_loss**: a self proposal abandoned at the sanity check because one of its
    transactions was finalized in another snapshot hands every pending sibling back -/
theorem abandoned_no_loss (st : St) (txs : List Nat) (st' : St)
    (h : sanityFinalizedElsewhere st txs = some st') :
    st'.aggs = st.aggs ∧ ∀ x ∈ txs, pending st x → x ∈ st'.queue := by
  unfold sanityFinalizedElsewhere at h
  split at h
  · split at h
    · cases h
      exact ⟨rfl, fun x hx hp => (requeue_mem st _ x).mpr (.inr ⟨hx, hp⟩)⟩
    · cases h
  · cases h

-- the day-boundary deferral: round opened one second before midnight, proposal 1.5 s later
example : (announceAt roundGap { bodies := [1, 2] } { hash := 1001, round := 2, ts := 20000 * oneDay + 500000000, txs := [1, 2] }
    1001 5 (20000 * oneDay - 1000000001) (20000 * oneDay - 1000000000)).queue = [1, 2] := by decide

example : (sanityFinalizedElsewhere { bodies := [1, 2], finalized := [1] } [1, 2]).map (·.queue) = some [2] := by decide

theorem inner_mem (owned txs acc : List Nat) (x : Nat) :
    x ∈ txs.foldl (fun acc tx => if !owned.contains tx && !acc.contains tx then acc ++ [tx] else acc) acc ↔
      x ∈ acc ∨ (x ∈ txs ∧ x ∉ owned) := by
  refine mem_foldl_push (P := fun t => t ∉ owned) (fun acc t x => ?_) txs acc x
  by_cases h1 : t ∈ owned
  · simp [h1]
  by_cases h2 : t ∈ acc
  · simpa [h1, h2] using fun e => e ▸ h2
  · simp [h1, h2]

theorem resetList_mem (owned : List Nat) (aggs : List Agg) (x : Nat) :
    x ∈ resetList owned aggs ↔ x ∉ owned ∧ ∃ a ∈ aggs, x ∈ a.snap.txs := by
  refine (mem_foldl_iff (fun acc a x => inner_mem owned a.snap.txs acc x) aggs [] x).trans ?_
  simp only [List.not_mem_nil, false_or]
  exact ⟨fun ⟨a, ha, hx, ho⟩ => ⟨ho, a, ha, hx⟩, fun ⟨ho, a, ha, hx⟩ => ⟨a, ha, hx, ho⟩⟩

theorem reset_queue_mem (st : St) (owned : List Nat) (x : Nat) :
    x ∈ (resetRound st owned).queue ↔
      x ∈ st.queue ∨ (x ∉ owned ∧ (∃ a ∈ st.aggs, x ∈ a.snap.txs) ∧ pending st x) := by
  unfold resetRound
  rw [requeue_mem, resetList_mem, and_assoc]
  exact Iff.rfl

/-- **reset_no_loss**: `resetCosiStateForNewRound(owned)` discards every proposal and verifier,
    and every pending transaction of a discarded proposal that is not owned by the proposal
    triggering the transition is eligible afterwards -/
theorem reset_no_loss (st : St) (owned : List Nat) :
    (resetRound st owned).aggs = [] ∧ (resetRound st owned).vers = [] ∧
    ∀ a ∈ st.aggs, ∀ x ∈ a.snap.txs, x ∉ owned → pending st x → x ∈ (resetRound st owned).queue :=
  ⟨rfl, rfl, fun a ha x hx ho hp => (reset_queue_mem st owned x).mpr (.inr ⟨ho, ⟨a, ha, hx⟩, hp⟩)⟩

/-- **active_not_requeued** for the round transition: the transactions of the proposal that is
    about to be installed (`owned`) are not made eligible by the reset, and nothing else than
    pending transactions of discarded proposals is -/
theorem reset_owned_not_requeued (st : St) (owned : List Nat) (x : Nat)
    (hx : x ∈ (resetRound st owned).queue) (hn : x ∉ st.queue) :
    x ∉ owned ∧ (∃ a ∈ st.aggs, x ∈ a.snap.txs) ∧ pending st x :=
  ((reset_queue_mem st owned x).mp hx).resolve_left hn

/-- TestCosiRoundResetRequeuesOrphanedTransactions: owned 1, orphaned 2 -/
def tReset : St :=
  { aggs := [{ snap := { hash := 1000, round := 0, ts := 0, txs := [1, 2] }, commitments := 0, responses := 0, base := 5 }]
    vers := [(1000, { id := 0, round := 0, ts := 0 }), (1, { id := 0, round := 0, ts := 0 }), (2, { id := 0, round := 0, ts := 0 })]
    bodies := [1, 2] }

example : (resetRound tReset [1]).queue = [2] ∧ (resetRound tReset [1]).aggs = [] := by decide

/- an incomplete proposal expires after one round gap; a complete one and a young one stay -/
def tExpire : St :=
  { aggs := [{ snap := { hash := 1000, round := 1, ts := 10, txs := [1, 2] }, commitments := 3, responses := 1, base := 5 },
             { snap := { hash := 1001, round := 1, ts := 10, txs := [3] }, commitments := 5, responses := 5, base := 5 },
             { snap := { hash := 1002, round := 1, ts := 11, txs := [4] }, commitments := 1, responses := 0, base := 5 }]
    bodies := [1, 2, 3, 4]
    finalized := [2] }

example : UniqueKeys tExpire ∧ (expire (10 + roundGap) roundGap tExpire).queue = [1] ∧
    (expire (10 + roundGap) roundGap tExpire).aggs.map (·.snap.hash) = [1001, 1002] := by
  refine ⟨by unfold UniqueKeys; decide, by decide, by decide⟩

example : DisjointAggs tExpire := by
  intro a ha b hb x hxa hxb
  simp only [tExpire, List.mem_cons, List.not_mem_nil, or_false] at ha hb
  rcases ha with rfl | rfl | rfl <;> rcases hb with rfl | rfl | rfl <;> simp_all

end Mixin.C24
