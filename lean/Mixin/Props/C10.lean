import Mixin.Props.C09
import Mixin.Facts.ExpectedC10
import Mathlib.Data.Finset.Card
/-!
# C10 — any two threshold certificates share more than a third of the signer set

`n` = size of the key vector a certificate is checked against (`Chain.ConsensusKeys(round, ts)`),
`t` = `Node.ConsensusThreshold(ts, true)`. A certificate names a set of positions `< n` (the bits of
a 64-bit mask) of size at least `t`.

The property is **false of the code as it is** for round-0 certificates on a pledging node's own
chain (`consensusNodes` appends the pledging node, the threshold base does not count it): see
`quorum_intersect_counterexample`. It is proved for every other case (`quorum_intersect_partial`).
-/
namespace Mixin.C10
open Mixin.Membership

/-- Two subsets of a key set of size at most `B`, each of size at least `⌊2B/3⌋+1`, intersect in
    more than a third of the key set. -/
theorem quorum_sets {α : Type} [DecidableEq α] (keys S T : Finset α) (B : Nat)
    (hn : keys.card ≤ B) (hS : S ⊆ keys) (hT : T ⊆ keys)
    (hSc : B * 2 / 3 + 1 ≤ S.card) (hTc : B * 2 / 3 + 1 ≤ T.card) :
    keys.card < 3 * (S ∩ T).card := by
  have h1 := Finset.card_union_add_card_inter S T
  have h2 : (S ∪ T).card ≤ keys.card := Finset.card_le_card (Finset.union_subset hS hT)
  -- `|S ∩ T| = |S| + |T| - |S ∪ T| ≥ 2 (⌊2B/3⌋ + 1) - B`, and `3 (2 ⌊2B/3⌋ + 2 - B) > B ≥ |keys|`
  omega

example : (3 : Nat) < 3 * (({0, 1, 2} : Finset Nat) ∩ {0, 1, 2}).card := by decide

/-- A node that may sign at `ts` (`ConsensusReady`, not the removal candidate) is counted in the
    final threshold base: needs only `refThr · roundGap ≤ acceptMin`. -/
theorem ready_counted (c : Consts) (n : Node) (rm : Option CNode) (ts : Nat) (cn : CNode)
    (hrel : c.refThr * c.roundGap ≤ c.acceptMin)
    (h : (!isRemoving rm cn && consensusReady c n cn ts) = true) :
    countedInBase c n rm ts true cn = true := by
  simp only [Bool.and_eq_true, Bool.not_eq_true'] at h
  obtain ⟨hr, hready⟩ := h
  unfold consensusReady at hready
  unfold countedInBase
  by_cases hs : cn.rc.state = .accepted
  · simp only [hs, ne_eq, not_true_eq_false, if_false, hr, Bool.false_eq_true] at hready ⊢
    split at hready
    · next hg => rw [hg, Bool.true_or]
    · split at hready
      · rw [decide_eq_true (by omega), Bool.or_true]
      · cases hready
  · simp [hs] at hready

theorem map_rc_reindex (l : List CNode) (i : Nat) : (reindex i l).map (·.rc) = l.map (·.rc) := by
  induction l generalizing i with
  | nil => rfl
  | cons a t ih => rw [reindex, List.map_cons, ih, List.map_cons]

theorem length_reindex (l : List CNode) (i : Nat) : (reindex i l).length = l.length := by
  simpa using congrArg List.length (map_rc_reindex l i)

theorem mem_reindex {l : List CNode} {i : Nat} {cn : CNode} (h : cn ∈ reindex i l) :
    ∃ b ∈ l, b.rc = cn.rc :=
  List.mem_map.1 (map_rc_reindex l i ▸ List.mem_map_of_mem h)

theorem ready_sublist_base (c : Consts) (hrel : c.refThr * c.roundGap ≤ c.acceptMin) (n : Node) (ts : Nat) :
    (readyNodes c n ts).Sublist (baseNodes c n ts true) :=
  List.monotone_filter_right _ fun a h => ready_counted c n _ ts a hrel h

/-- `ready_subset_base`, for arbitrary constants satisfying the maturity relation: every node in
    the consensus key set other than the round-0 pledging node is counted in the base. -/
theorem ready_subset_base_of (c : Consts) (hrel : c.refThr * c.roundGap ≤ c.acceptMin)
    (n : Node) (ch : Chain) (round ts : Nat) :
    ∀ cn ∈ consensusNodes c n ch round ts,
      (∃ b ∈ baseNodes c n ts true, b.rc = cn.rc) ∨
      (round = 0 ∧ ∃ ci, ch.pledging = some ci ∧ cn.rc = ci.rc ∧ cn.idx = (readyNodes c n ts).length) := by
  intro cn hcn
  have hready : ∀ x ∈ reindex 0 (readyNodes c n ts), ∃ b ∈ baseNodes c n ts true, b.rc = x.rc := by
    intro x hx
    obtain ⟨b, hb, hbe⟩ := mem_reindex hx
    exact ⟨b, (ready_sublist_base c hrel n ts).subset hb, hbe⟩
  unfold consensusNodes at hcn
  split at hcn
  · next ci hp =>
    split at hcn
    · next hr =>
      rcases List.mem_append.1 hcn with h | h
      · exact Or.inl (hready cn h)
      · rw [List.mem_singleton.1 h]
        exact Or.inr ⟨hr, ci, hp, rfl, length_reindex _ _⟩
    · exact Or.inl (hready cn hcn)
  · exact Or.inl (hready cn hcn)

/-- …for the constants of the source tree. -/
theorem ready_subset_base (n : Node) (ch : Chain) (round ts : Nat) :
    ∀ cn ∈ consensusNodes genConsts n ch round ts,
      (∃ b ∈ baseNodes genConsts n ts true, b.rc = cn.rc) ∨
      (round = 0 ∧ ∃ ci, ch.pledging = some ci ∧ cn.rc = ci.rc ∧
        cn.idx = (readyNodes genConsts n ts).length) :=
  ready_subset_base_of genConsts Mixin.Facts.ExpectedC10.maturity_le n ch round ts

theorem length_consensusKeys (c : Consts) (n : Node) (ch : Chain) (round ts : Nat) :
    (consensusKeys c n ch round ts).length =
      (readyNodes c n ts).length + if round = 0 ∧ ch.pledging.isSome then 1 else 0 := by
  unfold consensusKeys consensusNodes
  cases ch.pledging with
  | none => simp [length_reindex]
  | some ci => by_cases hr : round = 0 <;> simp [hr, length_reindex]

/-- the number of keys a certificate is checked against: the base covers it, except for the one
    extra key of a round-0 certificate on a pledging chain -/
theorem keys_le_base (n : Node) (ch : Chain) (round ts : Nat) :
    (consensusKeys genConsts n ch round ts).length ≤
      consensusBase genConsts n ts true + (if round = 0 ∧ ch.pledging.isSome then 1 else 0) := by
  rw [length_consensusKeys]
  exact Nat.add_le_add_right (ready_sublist_base genConsts Mixin.Facts.ExpectedC10.maturity_le n ts).length_le _

/-
**Full statement (`quorum_intersect`) — FALSE of the code, see the counterexample below.**

  theorem quorum_intersect (n : Node) (ch : Chain) (round ts : Nat) (S T : Finset Nat)
      (hS : S ⊆ Finset.range (consensusKeys genConsts n ch round ts).length)
      (hT : T ⊆ Finset.range (consensusKeys genConsts n ch round ts).length)
      (hSc : consensusThreshold genConsts n ts true ≤ S.card)
      (hTc : consensusThreshold genConsts n ts true ≤ T.card) :
      (consensusKeys genConsts n ch round ts).length < 3 * (S ∩ T).card

What is proved (`quorum_intersect_partial`) adds the hypothesis `round ≠ 0 ∨ ch.pledging = none`
(equivalently: the key vector has at most `consensusBase` entries). What is missing is exactly the
round-0 certificate checked on a chain that has no round yet (`Chain.IsPledging`), where
`consensusNodes` appends the chain's own node to the ready nodes while `ConsensusThreshold(ts, true)`
is computed from the base without it.
-/

theorem keys_le_base_nonpledging (n : Node) (ch : Chain) (round ts : Nat) (hcase : round ≠ 0 ∨ ch.pledging = none) :
    (consensusKeys genConsts n ch round ts).length ≤ consensusBase genConsts n ts true := by
  have hle := keys_le_base n ch round ts
  rwa [if_neg, Nat.add_zero] at hle
  rintro ⟨h0, hp⟩
  rcases hcase with h | h
  · exact h h0
  · rw [h] at hp; cases hp

/-- For every membership history, timestamp and chain — except round-0 certificates on a pledging
    chain — any two position sets meeting the final threshold share more than a third of the key
    vector they are checked against. -/
theorem quorum_intersect_partial (n : Node) (ch : Chain) (round ts : Nat) (S T : Finset Nat)
    (hcase : round ≠ 0 ∨ ch.pledging = none)
    (hS : S ⊆ Finset.range (consensusKeys genConsts n ch round ts).length)
    (hT : T ⊆ Finset.range (consensusKeys genConsts n ch round ts).length)
    (hSc : consensusThreshold genConsts n ts true ≤ S.card)
    (hTc : consensusThreshold genConsts n ts true ≤ T.card) :
    (consensusKeys genConsts n ch round ts).length < 3 * (S ∩ T).card := by
  have hle := keys_le_base_nonpledging n ch round ts hcase
  unfold consensusThreshold at hSc hTc
  by_cases hb : consensusBase genConsts n ts true < genConsts.minNodes
  · -- the sentinel threshold exceeds the key vector: no set of positions reaches it
    have hcardS : S.card ≤ (consensusKeys genConsts n ch round ts).length := by
      simpa using Finset.card_le_card hS
    have hmin := Mixin.Facts.ExpectedC10.min_le_sentinel
    simp only [hb, if_true] at hSc
    omega
  · simp only [hb, if_false] at hSc hTc
    simpa using quorum_sets (Finset.range (consensusKeys genConsts n ch round ts).length) S T
      (consensusBase genConsts n ts true) (by simpa using hle) hS hT hSc hTc

/-- If the effective membership is below the minimum, the threshold is out of reach of any 64-bit
    signer mask: no certificate can meet it. -/
theorem below_minimum_no_cert (n : Node) (ts : Nat)
    (hb : consensusBase genConsts n ts true < genConsts.minNodes)
    (S : Finset Nat) (hS : S ⊆ Finset.range 64) :
    S.card < consensusThreshold genConsts n ts true := by
  have : S.card ≤ 64 := by simpa using Finset.card_le_card hS
  unfold consensusThreshold
  simp only [hb, if_true]
  omega

/-- …and it is out of reach of the key vector as well, the extra key of a round-0 certificate on a
    pledging chain included. -/
theorem below_minimum_keys_short (n : Node) (ch : Chain) (round ts : Nat)
    (hb : consensusBase genConsts n ts true < genConsts.minNodes) :
    (consensusKeys genConsts n ch round ts).length < consensusThreshold genConsts n ts true := by
  have hle := keys_le_base n ch round ts
  have hmin := Mixin.Facts.ExpectedC10.min_le_sentinel
  unfold consensusThreshold
  simp only [hb, if_true]
  split at hle <;> omega

/-! ## every (key vector, threshold) pair the finalization verifier uses

`Mixin.Finality.finalizationAttempts` lists the pairs `verifyFinalization` hands to the certificate
verifier (`Mixin.C09.verify_attempts` shows that these are the only ones): the primary attempt at the
certificate timestamp and, on mainnet before the signer-set fork inside the node-operation window,
the retry with the key vector of the hour before the window. -/

open Mixin.Finality in
theorem attempts_spec (c : Consts) (n : Node) (ch : Chain) (round ts : Nat) :
    ∀ a ∈ finalizationAttempts c n ch round ts,
      a = (consensusKeys c n ch round ts, consensusThreshold c n ts true) ∨
      a = (consensusKeys c n ch round (legacyTs c n ts), consensusThreshold c n (legacyTs c n ts) true) :=
  fun _ ha => (Mixin.C09.mem_attempts.1 ha).2.imp_right And.left

open Mixin.Finality in
/-- for every pair the finalization verifier uses — primary and legacy
    retry alike — two position sets meeting the pair's threshold share more than a third of the
    pair's key vector (same exception as `quorum_intersect_partial`: round 0 on a pledging chain). -/
theorem attempts_intersect_partial (n : Node) (ch : Chain) (round ts : Nat)
    (hcase : round ≠ 0 ∨ ch.pledging = none)
    (a : List (Nat × Nat) × Nat) (ha : a ∈ finalizationAttempts genConsts n ch round ts)
    (S T : Finset Nat) (hS : S ⊆ Finset.range a.1.length) (hT : T ⊆ Finset.range a.1.length)
    (hSc : a.2 ≤ S.card) (hTc : a.2 ≤ T.card) :
    a.1.length < 3 * (S ∩ T).card := by
  rcases attempts_spec genConsts n ch round ts a ha with rfl | rfl
  · exact quorum_intersect_partial n ch round ts S T hcase hS hT hSc hTc
  · exact quorum_intersect_partial n ch round _ S T hcase hS hT hSc hTc

/-! ## the counterexample: 7 genesis nodes, one node pledged 13 h ago, its own chain, round 0 -/

def g (i : Nat) : Rec := { ts := 0, id := i, signer := 100 + i, payee := 200 + i, state := .accepted, tx := 300 + i }
def hour : Nat := 3600000000000
def pledgedAt : Nat := 240 * hour + 3 * hour
def pl : Rec := { ts := pledgedAt, id := 8, signer := 108, payee := 208, state := .pledging, tx := 308 }
def witnessNode : Node :=
  { epoch := 0, mainnet := false, self := 1, selfSigner := 101, genesis := [1, 2, 3, 4, 5, 6, 7],
    all := [g 1, g 2, g 3, g 4, g 5, g 6, g 7, pl] }
def witnessTs : Nat := pledgedAt + 13 * hour
def witnessChain : Chain := loadChain witnessNode 8 witnessTs false

/-- the model on the witness: key vector of 8 against a threshold of 5 … -/
theorem witness_keys_threshold :
    (consensusKeys genConsts witnessNode witnessChain 0 witnessTs).length = 8 ∧
    consensusThreshold genConsts witnessNode witnessTs true = 5 ∧
    (consensusKeys genConsts witnessNode witnessChain 1 witnessTs).length = 7 := by
  decide

/-- … and two position sets of size 5 among 8 positions meeting in 2 ≤ 8/3 positions: the
    conclusion of `quorum_intersect` fails on the witness while all its hypotheses hold. -/
theorem quorum_intersect_counterexample :
    ∃ (S T : Finset Nat),
      S ⊆ Finset.range (consensusKeys genConsts witnessNode witnessChain 0 witnessTs).length ∧
      T ⊆ Finset.range (consensusKeys genConsts witnessNode witnessChain 0 witnessTs).length ∧
      consensusThreshold genConsts witnessNode witnessTs true ≤ S.card ∧
      consensusThreshold genConsts witnessNode witnessTs true ≤ T.card ∧
      ¬ (consensusKeys genConsts witnessNode witnessChain 0 witnessTs).length < 3 * (S ∩ T).card := by
  refine ⟨{0, 1, 2, 3, 4}, {3, 4, 5, 6, 7}, ?_⟩
  rw [witness_keys_threshold.1, witness_keys_threshold.2.1]
  decide

/-! ### non-vacuity of the positive theorems: on the same history, away from round 0, a 5-of-7
    certificate is feasible and the hypotheses of `quorum_intersect_partial` are met -/
example : consensusThreshold genConsts witnessNode witnessTs true ≤ (consensusKeys genConsts witnessNode witnessChain 1 witnessTs).length := by
  rw [witness_keys_threshold.2.1, witness_keys_threshold.2.2]; decide
example : ({0, 1, 2, 3, 4} : Finset Nat) ⊆ Finset.range 7 := by decide
example : consensusBase genConsts { witnessNode with all := [g 1, g 2] } witnessTs true < genConsts.minNodes := by decide

end Mixin.C10
