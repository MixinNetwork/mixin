import Mixin.Model.Batch
import Mixin.Proofs.PeerMsg
import Mixin.Facts.ExpectedC31
/-!
  C31 — every message the node sends fits the transport limit.

  Model: `Mixin.Batch` (kernel/queue.go batching loop, p2p/handle.go builders, p2p/quic.go framing).
  The batcher as found accounted the *unsigned* payload size; `bundle_fits_counterexample_unsigned`
  proves that rule violates the property on the batch that was replayed on the real code
  (known_findings.json, C31:batch-accounts-unsigned-size, fixed). The tree under test accounts
  the signed envelope (`Acct.envelope`), for which `bundle_fits` holds at full strength.
-/
namespace Mixin.C31
open Mixin.Batch Mixin.Facts Mixin.Facts.ExpectedC31

def envSum (g : List QTx) : Nat := (g.map (·.env)).foldl (· + ·) 0
def acctSum (a : Acct) (g : List QTx) : Nat := (g.map (acct a)).foldl (· + ·) 0

theorem envSum_eq (g : List QTx) : envSum g = (g.map (·.env)).sum := List.sum_eq_foldl.symm
theorem acctSum_eq (a : Acct) (g : List QTx) : acctSum a g = (g.map (acct a)).sum := List.sum_eq_foldl.symm

theorem sumEnv_eq (es : List Nat) : sumEnv es = 4 * es.length + es.sum := by
  unfold sumEnv; rw [← List.sum_eq_foldl]
  induction es with
  | nil => rfl
  | cons e es ih => rw [List.map_cons, List.sum_cons, ih, List.sum_cons, List.length_cons]; omega

theorem sum_sublist {l m : List Nat} (h : l.Sublist m) : l.sum ≤ m.sum := by
  induction h with
  | slnil => exact Nat.le_refl _
  | cons a _ ih => rw [List.sum_cons]; omega
  | cons_cons a _ ih => rw [List.sum_cons, List.sum_cons]; omega

/-- what one pass maintains: the batch is accounted inside `batchSize`, a non-empty batch is
    strictly below the threshold, everything sent alone is one retrieved transaction, and the
    batch is no longer than what was retrieved -/
structure Inv (a : Acct) (T : Nat) (txs : List QTx) (s : St) : Prop where
  acc : acctSum a s.batch ≤ s.batchSize
  lt : s.batch ≠ [] → acctSum a s.batch < T
  single : ∀ g ∈ s.sends, ∃ t ∈ txs, g = [t]
  mem : ∀ t ∈ s.batch, t ∈ txs
  len : s.batch.length ≤ txs.length

theorem acctSum_snoc (a : Acct) (g : List QTx) (t : QTx) : acctSum a (g ++ [t]) = acctSum a g + acct a t := by
  simp only [acctSum_eq, List.map_append, List.sum_append, List.map_cons, List.map_nil, List.sum_cons,
    List.sum_nil, Nat.add_zero]

theorem step_inv (a : Acct) (T : Nat) (pre : List QTx) (s : St) (t : QTx)
    (h : Inv a T pre s) : Inv a T (pre ++ [t]) (step a T s t) := by
  have hsends : ∀ g ∈ s.sends ++ [[t]], ∃ u ∈ pre ++ [t], g = [u] := fun g hg => by
    rcases List.mem_append.mp hg with hg | hg
    · obtain ⟨u, hu, e⟩ := h.single g hg; exact ⟨u, List.mem_append_left _ hu, e⟩
    · exact ⟨t, List.mem_append_right _ (List.mem_singleton_self t), List.mem_singleton.mp hg⟩
  have hlen : (pre ++ [t]).length = pre.length + 1 := List.length_append
  have hacc := h.acc
  -- the batch untouched: only `seen`, `stale`, `sends` or `batchSize` moved
  have keep : Inv a T (pre ++ [t]) s :=
    ⟨hacc, h.lt, fun g hg => hsends g (List.mem_append_left _ hg),
      fun u hu => List.mem_append_left _ (h.mem u hu), hlen ▸ Nat.le_succ_of_le h.len⟩
  rw [step]
  by_cases h1 : s.seen.contains t.id = true
  · rw [if_pos h1]; exact keep
  rw [if_neg h1]
  by_cases h2 : t.finalized = true
  · rw [if_pos h2]; exact { keep with }
  rw [if_neg h2]
  by_cases h3 : (!t.valid) = true
  · rw [if_pos h3]; exact { keep with }
  rw [if_neg h3]
  by_cases h4 : t.elected = true
  · rw [if_pos h4]; exact { keep with single := hsends }
  rw [if_neg h4]
  by_cases h5 : (t.batchable && decide (s.batchSize + acct a t < T)) = true
  · have hlt : s.batchSize + acct a t < T := of_decide_eq_true (Bool.and_eq_true_iff.mp h5).2
    rw [if_pos h5]
    refine ⟨?_, fun _ => ?_, keep.single, ?_, ?_⟩
    · show acctSum a (s.batch ++ [t]) ≤ s.batchSize + acct a t
      rw [acctSum_snoc]; omega
    · show acctSum a (s.batch ++ [t]) < T
      rw [acctSum_snoc]; omega
    · exact fun u hu => (List.mem_append.mp hu).elim (keep.mem u) (List.mem_append_right _)
    · show (s.batch ++ [t]).length ≤ _
      rw [hlen, List.length_append]; exact Nat.succ_le_succ h.len
  · rw [if_neg h5]
    exact { keep with acc := Nat.le_trans hacc (Nat.le_add_right _ _), single := hsends }

theorem foldl_inv (a : Acct) (T : Nat) (pre txs : List QTx) (s : St) (h : Inv a T pre s) :
    Inv a T (pre ++ txs) (txs.foldl (step a T) s) := by
  induction txs generalizing pre s with
  | nil => simpa using h
  | cons t ts ih =>
    have := ih (pre ++ [t]) (step a T s t) (step_inv a T pre s t h)
    simpa using this

theorem run_inv (a : Acct) (T : Nat) (txs : List QTx) : Inv a T txs (run a T txs) := by
  have h0 : Inv a T [] ({} : St) :=
    ⟨by simp [acctSum], by simp, by simp, by simp, by simp⟩
  simpa [run] using foldl_inv a T [] txs {} h0

/-- every way the code wraps the transactions `envs` into one message — plain bundle,
    transaction challenge, full challenge with any snapshot of at most `cap` hashes — is built
    (no builder panic) and fits `M`, also after `buildRelayMessage` put its header in front -/
def Fits (M cap : Nat) (envs : List Nat) : Prop :=
  (∃ n, bundleMsg cap envs = some n ∧ ∃ r, relayMsg M n = some r ∧ r ≤ M) ∧
  (∃ n, challengeMsg cap envs = some n ∧ ∃ r, relayMsg M n = some r ∧ r ≤ M) ∧
  (∀ refs ntx, ntx ≤ cap → ∃ n, fullChallengeMsg cap refs ntx envs = some n ∧ ∃ r, relayMsg M n = some r ∧ r ≤ M)

theorem snapshotSize_le (refs sig : Bool) {ntx cap : Nat} (h : ntx ≤ cap) :
    snapshotSize refs sig ntx ≤ snapshotSize true true cap := by
  cases refs <;> cases sig <;> exact Nat.add_le_add (by decide) (Nat.mul_le_mul_left 32 h)

/-- type byte, u32 length, snapshot (72 fixed, 64 references, 64 signature, 32 per hash), two keys -/
theorem hdrMax_eq (cap : Nat) : hdrMax cap = 1 + 4 + (72 + 64 + 64 + 32 * cap) + 64 := by
  simp only [hdrMax, snapshotSize, if_true]

/-- a builder with `k ≤ K` header bytes, then `buildRelayMessage` with its 65 -/
theorem wrap_fits {M k K p : Nat} {o : Option Nat} (hp : o = some p) (hk : k ≤ K)
    (h : 65 + (K + p) ≤ M) : ∃ n, o.map (k + ·) = some n ∧ ∃ r, relayMsg M n = some r ∧ r ≤ M :=
  ⟨k + p, hp ▸ rfl, 65 + (k + p), if_neg (by omega), by omega⟩

theorem fits_of_sum {M cap : Nat} {envs : List Nat} (hl : envs.length ≤ cap)
    (hroom : envs.sum + 4 * cap + 1 + hdrMax cap + 65 ≤ M) : Fits M cap envs := by
  have hp : txsPayload cap envs = some (1 + sumEnv envs) := if_neg (Nat.not_lt.mpr hl)
  have hmax : 65 + (hdrMax cap + (1 + sumEnv envs)) ≤ M := by rw [sumEnv_eq]; omega
  have h105 : 105 ≤ hdrMax cap := by rw [hdrMax_eq]; omega
  exact ⟨wrap_fits hp (Nat.le_trans (by decide) h105) hmax, wrap_fits hp h105 hmax, fun refs ntx hn =>
    wrap_fits hp (Nat.add_le_add_right (Nat.add_le_add_left (snapshotSize_le refs true hn) _) _) hmax⟩

theorem one_le_cap : 1 ≤ snapTxMax := by decide

theorem fits_of_group {M cap : Nat} {g sub : List QTx} (hsub : sub.Sublist g) (hl : g.length ≤ cap)
    (hroom : envSum g + 4 * cap + 1 + hdrMax cap + 65 ≤ M) : Fits M cap (sub.map (·.env)) := by
  apply fits_of_sum
  · rw [List.length_map]; exact Nat.le_trans hsub.length_le hl
  · have := sum_sublist (hsub.map (·.env))
    rw [envSum_eq] at hroom; omega

theorem mem_groups {a : Acct} {T cap : Nat} {txs g : List QTx} (hg : g ∈ groups a T cap txs) :
    (∃ t ∈ txs.take cap, g = [t]) ∨ (g ≠ [] ∧ g.length ≤ cap ∧ acctSum a g < T) := by
  have hinv := run_inv a T (txs.take cap)
  rcases List.mem_append.mp hg with hg | hg
  · exact .inl (hinv.single g hg)
  · split at hg
    · exact absurd hg List.not_mem_nil
    · next hne =>
      rw [List.mem_singleton.mp hg]
      have hne' : (run a T (txs.take cap)).batch ≠ [] := fun h => hne (h ▸ rfl)
      exact .inr ⟨hne', Nat.le_trans hinv.len (List.length_take_le _ _), hinv.lt hne'⟩

/-- the groups of one pass are never empty and never longer than the retrieval limit -/
theorem groups_bounded (a : Acct) (T cap : Nat) (txs g : List QTx) (hg : g ∈ groups a T cap txs) :
    g ≠ [] ∧ g.length ≤ max 1 cap := by
  rcases mem_groups hg with ⟨t, _, rfl⟩ | ⟨hne, hlen, _⟩
  · exact ⟨List.cons_ne_nil _ _, Nat.le_max_left _ _⟩
  · exact ⟨hne, Nat.le_trans hlen (Nat.le_max_right _ _)⟩

/-
  For either accounting rule: a group the batcher sends together fits, provided its signed
  envelopes sum to less than the batching threshold.  The payload rule does not give that
  hypothesis: it bounds the payload sum, not the envelope sum (counterexample below).
-/
theorem bundle_fits_partial (a : Acct) (txs g sub : List QTx)
    (hg : g ∈ groups a (threshold maxSize) snapTxMax txs) (hsub : sub.Sublist g)
    (henv : envSum g < threshold maxSize) : Fits maxSize snapTxMax (sub.map (·.env)) :=
  fits_of_group hsub (Nat.max_eq_right one_le_cap ▸ (groups_bounded a _ _ txs g hg).2)
    (by have := batch_room; omega)

/-- **bundle_fits** (full strength). For every list of queued transactions whose signed
    envelopes respect the admission cap (`unmarshalVersionedTransaction` rejects anything
    larger, and the cache queue only returns what it unmarshaled), every group of transactions
    one pass of the batcher sends together — and every sub-list of it (a challenge carries the
    transactions a peer still wants) — is built without panic by every builder and fits
    `TransportMessageMaxSize`, also when relayed. -/
theorem bundle_fits (txs g sub : List QTx) (hcap : ∀ t ∈ txs, t.env ≤ txMax)
    (hg : g ∈ popGroups txs) (hsub : sub.Sublist g) :
    Fits maxSize snapTxMax (sub.map (·.env)) := by
  rcases mem_groups hg with ⟨t, ht, rfl⟩ | ⟨_, _, hlt⟩
  · -- sent alone: one admitted transaction, `single_room`
    have hte : envSum [t] ≤ txMax := by
      rw [envSum_eq]; simpa using hcap t (List.mem_of_mem_take ht)
    exact fits_of_group hsub one_le_cap (by have := single_room; omega)
  · -- the batch: `acctSum .envelope` is `envSum`
    exact bundle_fits_partial .envelope txs g sub hg hsub hlt

/-! ### the defect of the payload rule, on the replayed batch -/

def mkTx (i p e : Nat) : QTx :=
  { id := i, payload := p, env := e, batchable := true, finalized := false, valid := true, elected := false }

/-- the batch replayed on the real code (sizes as measured there): six storage transactions and
    three transactions of 225 inputs × 256 signatures -/
def witness : List QTx :=
  [mkTx 0 4190377 4190445, mkTx 1 4190377 4190445, mkTx 2 4190377 4190445, mkTx 3 4190377 4190445,
   mkTx 4 4190377 4190445, mkTx 5 1380169 1380237, mkTx 6 9129 3811179, mkTx 7 9129 3811179,
   mkTx 8 9129 3811179]

/- every witness transaction respects the admission cap -/
example : ∀ t ∈ witness, t.env ≤ 4194304 ∧ t.payload ≤ t.env := by decide

/-- the constants of the tree in which the defect was found and replayed (written out, so that
    a later retuning of the limits does not touch this historical witness) -/
def foundMax : Nat := 33554432
def foundCap : Nat := 255

/-- With the payload rule (the code as found) the nine transactions form ONE group whose plain
    bundle is 33 766 037 bytes — above `TransportMessageMaxSize` — and `buildRelayMessage`
    panics on it: the negation of `bundle_fits` for `Acct.payload`. -/
theorem bundle_fits_counterexample_unsigned :
    groups .payload (threshold foundMax) foundCap witness = [witness] ∧
    bundleMsg foundCap (witness.map (·.env)) = some 33766037 ∧
    foundMax < 33766037 ∧ relayMsg foundMax 33766037 = none ∧
    ¬ Fits foundMax foundCap (witness.map (·.env)) := by
  have h1 : bundleMsg foundCap (witness.map (·.env)) = some 33766037 := by decide
  have h2 : relayMsg foundMax 33766037 = none := by decide
  refine ⟨by decide, h1, by decide, h2, ?_⟩
  rintro ⟨⟨n, hn, r, hr, _⟩, _⟩
  rw [h1] at hn; cases hn
  rw [h2] at hr; cases hr

/- the repaired rule splits the same queue: the six storage transactions are batched (22.3 MB),
    the three signature-heavy ones go alone -/
example : groups .envelope (threshold foundMax) foundCap witness =
    [[mkTx 6 9129 3811179], [mkTx 7 9129 3811179], [mkTx 8 9129 3811179], witness.take 6] := by decide

/-- announcement, commitment, response and finalization messages of a snapshot with at most
    `SnapshotTransactionsMaximum` hashes (and at most that many wanted transactions) fit,
    relayed or not — by construction, whatever the snapshot -/
theorem snapshot_msgs_fit (refs : Bool) (ntx nwant : Nat) (h1 : ntx ≤ snapTxMax) (h2 : nwant ≤ snapTxMax) :
    announcementMsg refs ntx + 65 ≤ maxSize ∧ commitmentMsg nwant + 65 ≤ maxSize ∧
    responseMsg + 65 ≤ maxSize ∧ finalizationMsg refs ntx + 65 ≤ maxSize := by
  have ha := snapshotSize_le refs false h1
  have hf := snapshotSize_le refs true h1
  have hs : snapshotSize true true snapTxMax = 200 + 32 * snapTxMax := by simp only [snapshotSize, if_true]
  have hm : 32 * snapTxMax + 400 ≤ maxSize := by decide
  unfold announcementMsg commitmentMsg responseMsg finalizationMsg
  omega

example : announcementMsg true 255 = 8393 ∧ finalizationMsg true 255 = 8361 ∧ commitmentMsg 255 = 8289 := by decide

theorem be32_length (n : Nat) : (be32 n).length = 4 := rfl

/-- the size field of the frame header is the 4-byte case of the big-endian codec of the messages -/
theorem be32_eq_beBytes (n : Nat) : be32 n = PeerMsg.beBytes 4 n := by
  simp only [be32, PeerMsg.beBytes, Nat.div_div_eq_div_mul, List.nil_append, List.cons_append, Nat.reduceMul]

theorem ofBe32_eq_beNat (a b c d : UInt8) : ofBe32 a b c d = PeerMsg.beNat [a, b, c, d] := by
  simp only [ofBe32, PeerMsg.beNat, List.foldl_cons, List.foldl_nil, Nat.zero_mul, Nat.zero_add, Nat.add_mul,
    Nat.mul_assoc, Nat.reduceMul]

theorem ofBe32_be32 (n : Nat) (h : n < 4294967296) :
    ofBe32 (n / 16777216 % 256).toUInt8 (n / 65536 % 256).toUInt8 (n / 256 % 256).toUInt8 (n % 256).toUInt8 = n :=
  (ofBe32_eq_beNat ..).trans
    ((congrArg PeerMsg.beNat (be32_eq_beBytes n)).trans (PeerMsg.beNat_beBytes_of_lt (n := 4) h))

theorem frame_of_size {M : Nat} (ver : Nat) {d : List UInt8} (h1 : 1 ≤ d.length) (h2 : d.length ≤ M) :
    frame M ver d = some (ver.toUInt8 :: 0 :: be32 d.length ++ d) :=
  if_neg (by simp only [Bool.or_eq_true, decide_eq_true_eq]; omega)

/-- `Send` refuses exactly the empty message and messages above the maximum, writing nothing -/
theorem send_rejects_oversize (M ver : Nat) (d : List UInt8) :
    frame M ver d = none ↔ (d.length = 0 ∨ d.length > M) := by
  constructor
  · intro h
    apply Classical.byContradiction
    intro hc
    rw [frame_of_size ver (by omega) (by omega)] at h
    cases h
  · intro h
    exact if_pos (by simp only [Bool.or_eq_true, decide_eq_true_eq]; omega)

theorem sendAccepts_iff (M ver : Nat) (d : List UInt8) :
    sendAccepts M d.length = true ↔ (frame M ver d).isSome = true := by
  unfold sendAccepts frame
  cases (decide (d.length < 1) || decide (d.length > M)) <;> simp

/-- The three ways `receiveWithLimit` ends: the limit is refused before anything is read; the call is refused with
    only the header buffer made (short header, wrong version, announced size above `limit`); or a header announcing
    at most `limit` bytes is accepted and the body buffer made. -/
theorem receiveA_cases (M ver limit : Nat) (s : Bytes) :
    receiveA M ver limit s = (.badLimit, []) ∨
    (∃ r, receiveA M ver limit s = (r, [6]) ∧ ∀ d t, r ≠ .ok d t) ∨
    ∃ v x a b c d rest, s = v :: x :: a :: b :: c :: d :: rest ∧ (0 < limit ∧ limit ≤ M) ∧
      ofBe32 a b c d ≤ limit ∧ receiveA M ver limit s =
        (if rest.length < ofBe32 a b c d then .shortBody (ofBe32 a b c d)
          else .ok (rest.take (ofBe32 a b c d)) (rest.drop (ofBe32 a b c d)), [6, ofBe32 a b c d]) := by
  by_cases hl : (limit = 0 || limit > M) = true
  · exact .inl (if_pos hl)
  have hl' : 0 < limit ∧ limit ≤ M := by
    simp only [Bool.or_eq_true, decide_eq_true_eq] at hl; omega
  match s with
  | [] | [_] | [_, _] | [_, _, _] | [_, _, _, _] | [_, _, _, _, _] => exact .inr (.inl ⟨_, if_neg hl, nofun⟩)
  | v :: x :: a :: b :: c :: d :: rest =>
    by_cases hv : v.toNat ≠ ver
    · exact .inr (.inl ⟨_, (if_neg hl).trans (if_pos hv), nofun⟩)
    by_cases hn : ofBe32 a b c d > limit
    · exact .inr (.inl ⟨_, (if_neg hl).trans ((if_neg hv).trans (if_pos hn)), nofun⟩)
    exact .inr (.inr ⟨v, x, a, b, c, d, rest, rfl, hl', Nat.le_of_not_gt hn,
      (if_neg hl).trans ((if_neg hv).trans ((if_neg hn).trans (apply_ite (·, _) ..).symm))⟩)

theorem receive_header (M ver limit n : Nat) (body : Bytes) (hM : M < 4294967296) (hv : ver < 256)
    (h1 : 1 ≤ limit) (h2 : n ≤ limit) (h3 : limit ≤ M) :
    receive M ver limit (ver.toUInt8 :: 0 :: be32 n ++ body) =
      if body.length < n then .shortBody n else .ok (body.take n) (body.drop n) := by
  have hl : ¬ (limit = 0 || limit > M) = true := by
    simp only [Bool.or_eq_true, decide_eq_true_eq]; omega
  simp only [receive, receiveA, be32, List.cons_append, List.nil_append]
  rw [if_neg hl, ofBe32_be32 n (by omega), if_neg fun h => h (UInt8.toNat_ofNat_of_lt' hv), if_neg (Nat.not_lt.mpr h2)]
  exact apply_ite Prod.fst ..

/-- What `Send` writes for a message of 1..M bytes is read back by `receiveWithLimit` (any limit
    between the message size and M) as exactly that message, leaving what follows on the stream
    untouched; `frame_roundtrip` is the case of the real constants. -/
theorem frame_roundtrip_gen (M ver limit : Nat) (d rest : List UInt8)
    (hM : M < 4294967296) (hv : ver < 256) (h1 : 1 ≤ d.length) (h2 : d.length ≤ limit) (h3 : limit ≤ M) :
    ∃ f, frame M ver d = some f ∧ f.length = 6 + d.length ∧
      receive M ver limit (f ++ rest) = .ok d rest := by
  refine ⟨_, frame_of_size ver h1 (by omega), by simp only [List.length_cons, List.length_append, be32_length], ?_⟩
  rw [List.append_assoc, receive_header M ver limit d.length (d ++ rest) hM hv (by omega) h2 h3,
    if_neg (by simp), List.take_left, List.drop_left]

theorem frame_roundtrip (d rest : List UInt8) (h1 : 1 ≤ d.length) (h2 : d.length ≤ maxSize) :
    ∃ f, frame maxSize frameVersion d = some f ∧ f.length = headerSize + d.length ∧
      receive maxSize frameVersion maxSize (f ++ rest) = .ok d rest := by
  rw [header_is_six]
  exact frame_roundtrip_gen maxSize frameVersion maxSize d rest max_fits_u32 version_fits_byte h1 h2 (Nat.le_refl _)

example : frame maxSize frameVersion [1, 2, 3] = some [2, 0, 0, 0, 0, 3, 1, 2, 3] := by decide
example : receive maxSize frameVersion maxSize [2, 9, 0, 0, 0, 3, 1, 2, 3, 4] = .ok [1, 2, 3] [4] := by decide

/-- **oversize_rejected_before_alloc**: whatever is on the stream, every buffer
    `receiveWithLimit` makes is the 6-byte header or at most `limit ≤ M` bytes; and a header
    that announces more than `limit` is rejected with only the header buffer made. -/
theorem oversize_rejected_before_alloc (M ver limit : Nat) (s : List UInt8) :
    (∀ n ∈ (receiveA M ver limit s).2, n = 6 ∨ (n ≤ limit ∧ limit ≤ M)) ∧
    (∀ v x a b c d rest, s = v :: x :: a :: b :: c :: d :: rest → ofBe32 a b c d > limit →
      (∃ r, (receiveA M ver limit s).1 = r ∧ (∀ dd rr, r ≠ .ok dd rr)) ∧
      (∀ n ∈ (receiveA M ver limit s).2, n = 6)) := by
  rcases receiveA_cases M ver limit s with h | ⟨r, h, hno⟩ | ⟨v, x, a, b, c, d, rest, hs, hl, hle, h⟩ <;> rw [h]
  · exact ⟨nofun, fun _ _ _ _ _ _ _ _ _ => ⟨⟨_, rfl, nofun⟩, nofun⟩⟩
  · exact ⟨fun _ hn => .inl (List.mem_singleton.mp hn),
      fun _ _ _ _ _ _ _ _ _ => ⟨⟨r, rfl, hno⟩, fun _ hn => List.mem_singleton.mp hn⟩⟩
  · constructor
    · intro n hn
      rcases List.mem_cons.mp hn with rfl | hn
      · exact .inl rfl
      · exact .inr ⟨List.mem_singleton.mp hn ▸ hle, hl.2⟩
    · intro v' x' a' b' c' d' rest' hs' hbig
      cases hs.symm.trans hs'
      exact absurd hle (Nat.not_le_of_gt hbig)

/-- what is accepted respects the caller's limit, and limits above the maximum are refused -/
theorem receive_ok_le_limit (M ver limit : Nat) (s d rest : List UInt8)
    (h : receive M ver limit s = .ok d rest) : d.length ≤ limit ∧ 0 < limit ∧ limit ≤ M ∧ s.length = 6 + d.length + rest.length := by
  unfold receive at h
  rcases receiveA_cases M ver limit s with e | ⟨r, e, hno⟩ | ⟨v, x, a, b, c, d', rest', hs, hl, hle, e⟩ <;> rw [e] at h
  · cases h
  · exact absurd h (hno d rest)
  · by_cases hr : rest'.length < ofBe32 a b c d'
    · rw [if_pos hr] at h; cases h
    · rw [if_neg hr] at h; cases h
      rw [hs, List.length_take, List.length_drop]
      simp only [List.length_cons]
      omega

example : receive maxSize frameVersion 2 [2, 0, 0, 0, 0, 3, 1, 2, 3] = .tooLarge 3 := by decide
example : (receiveA maxSize frameVersion maxSize (2 :: 0 :: be32 4294967295)).2 = [6] := by decide

end Mixin.C31
