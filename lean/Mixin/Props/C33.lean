import Mixin.Proofs.Amount
/-!
# C33 — fixed-point amounts behave like exact decimal arithmetic

Property theorems about `Mixin.Model.Amount` (the model of `common/integer.go`,
`common/ration.go`). "Exact rational arithmetic followed by floor" is stated without
rationals: `q` is the floor of `a / b` iff `q * b ≤ a < (q + 1) * b`.
-/
namespace Mixin.C33
open Mixin.Amount

theorem takeWhile_all {p : Char → Bool} {l : List Char} (h : ∀ x ∈ l, p x = true) : l.takeWhile p = l := by
  have := List.takeWhile_append_of_pos (l₂ := []) h
  rwa [List.append_nil, List.takeWhile_nil, List.append_nil] at this

theorem dropWhile_all {p : Char → Bool} {l : List Char} (h : ∀ x ∈ l, p x = true) : l.dropWhile p = [] := by
  have := List.dropWhile_append_of_pos (l₂ := []) h
  rwa [List.append_nil, List.dropWhile_nil] at this

def AllDigits (l : List Char) : Prop := ∀ c ∈ l, c.isDigit = true

theorem digit_ne {c d : Char} (hc : c.isDigit = true) (hd : d.isDigit = false) : c ≠ d :=
  fun e => Bool.false_ne_true (hd.symm.trans (e ▸ hc))

theorem AllDigits.not_e {l : List Char} (h : AllDigits l) : ∀ c ∈ l, (!isE c) = true := fun c hc => by
  simp [isE, digit_ne (h c hc) (d := 'e') rfl, digit_ne (h c hc) (d := 'E') rfl]

theorem AllDigits.not_dot {l : List Char} (h : AllDigits l) : ∀ c ∈ l, (c != '.') = true :=
  fun c hc => bne_iff_ne.mpr (digit_ne (h c hc) rfl)

theorem parseSigned_digits {l : List Char} (hne : l ≠ []) (h : AllDigits l) :
    parseSigned l = some (digitsVal l : Int) := by
  cases l with
  | nil => exact absurd rfl hne
  | cons a t =>
    have ha : a.isDigit = true := h a List.mem_cons_self
    unfold parseSigned
    split
    · next heq => exact absurd (List.cons.inj heq).1 (digit_ne ha rfl)
    · next heq => exact absurd (List.cons.inj heq).1 (digit_ne ha rfl)
    · simp [List.all_eq_true.mpr h]

/-- `n` read with its last `k` digits after the decimal point, in units of 10^-`precision`,
    truncated -/
def scale (n k : Nat) : Nat :=
  if k ≤ precision then n * 10 ^ (precision - k) else n / 10 ^ (k - precision)

/-- What the parser does once the text is split: no exponent, integer part `ip`, fractional part
    `fp`, and `ip ++ fp` read as the signed number `v`. `hlen`: the exponent `-|fp|` has to fit
    an int32 (`minInt32 = -2147483648`), otherwise the Go parser reports an error. -/
theorem parseDecimal_parts {s ip fp : List Char} {v : Int}
    (hE : ∀ c ∈ s, (!isE c) = true) (hdots : s.count '.' ≤ 1)
    (hip : s.takeWhile (fun c => c != '.') = ip) (hfp : (s.dropWhile (fun c => c != '.')).drop 1 = fp)
    (hv : parseSigned (ip ++ fp) = some v) (hlen : fp.length ≤ 2147483648) :
    parseDecimal s = if v < 0 then none else some (scale v.toNat fp.length) := by
  unfold parseDecimal splitExp
  simp only [takeWhile_all hE, dropWhile_all hE, hip, hfp, hv, if_neg (Nat.not_lt.mpr hdots)]
  unfold scale
  simp only [precision, Mixin.Facts.Gen.common_Precision, minInt32, maxInt32]
  generalize fp.length = k at hlen
  have h1 : ¬((0 : Int) - k < -2147483648 ∨ (0 : Int) - k > 2147483647) := by omega
  have h2 : ¬((0 : Int) - k + (8 : Nat) > 2147483647) := by omega
  by_cases hk : k ≤ 8
  · have h3 : (0 : Int) - k + (8 : Nat) ≥ 0 := by omega
    have h4 : ((0 : Int) - k + (8 : Nat)).toNat = 8 - k := by omega
    simp only [h1, h2, h3, h4, hk, if_true, if_false]
  · have h3 : ¬(0 : Int) - k + (8 : Nat) ≥ 0 := by omega
    have h4 : (-((0 : Int) - k + (8 : Nat))).toNat = k - 8 := by omega
    simp only [h1, h2, h3, h4, hk, if_false]

theorem count_dot_digits {l : List Char} (h : AllDigits l) : l.count '.' = 0 :=
  List.count_eq_zero.mpr fun hm => digit_ne (h '.' hm) rfl rfl

theorem allDigits_append {l r : List Char} (hl : AllDigits l) (hr : AllDigits r) : AllDigits (l ++ r) :=
  fun c hc => (List.mem_append.mp hc).elim (hl c) (hr c)

theorem parseDecimal_plain {ip fp : List Char} (hne : ip ++ fp ≠ [])
    (hi : AllDigits ip) (hf : AllDigits fp) (hlen : fp.length ≤ 2147483648) :
    parseDecimal (ip ++ '.' :: fp) = some (scale (digitsVal (ip ++ fp)) fp.length) := by
  rw [parseDecimal_parts (ip := ip) (fp := fp)
      (List.forall_mem_append.mpr ⟨hi.not_e, List.forall_mem_cons.mpr ⟨rfl, hf.not_e⟩⟩) ?_ ?_ ?_
      (parseSigned_digits hne (allDigits_append hi hf)) hlen,
    if_neg (by omega), Int.toNat_natCast]
  · rw [List.count_append, List.count_cons_self, count_dot_digits hi, count_dot_digits hf]
    exact Nat.le_refl 1
  · rw [List.takeWhile_append_of_pos hi.not_dot, List.takeWhile_cons_of_neg (by decide), List.append_nil]
  · rw [List.dropWhile_append_of_pos hi.not_dot, List.dropWhile_cons_of_neg (by decide)]
    rfl

theorem parseDecimal_int {ip : List Char} (hne : ip ≠ []) (hi : AllDigits ip) :
    parseDecimal ip = some (digitsVal ip * 10 ^ precision) := by
  rw [parseDecimal_parts (ip := ip) (fp := []) hi.not_e
    (by rw [count_dot_digits hi]; decide) (takeWhile_all hi.not_dot) (by rw [dropWhile_all hi.not_dot]; rfl)
    (by rw [List.append_nil]; exact parseSigned_digits hne hi) (by decide), if_neg (by omega), Int.toNat_natCast]
  rfl

/-- A negative literal is rejected (the Go code panics). -/
theorem parse_negative_rejected {ds : List Char} (hne : ds ≠ []) (hd : AllDigits ds)
    (hpos : 0 < digitsVal ds) : parseDecimal ('-' :: ds) = none := by
  have hdot : ∀ x ∈ '-' :: ds, (x != '.') = true := List.forall_mem_cons.mpr ⟨rfl, hd.not_dot⟩
  have hall : ds.all Char.isDigit = true := List.all_eq_true.mpr hd
  have hv : parseSigned (('-' :: ds) ++ []) = some (-(digitsVal ds : Int)) := by
    cases ds with
    | nil => exact absurd rfl hne
    | cons a t => simp [parseSigned, hall]
  rw [parseDecimal_parts (fp := []) (List.forall_mem_cons.mpr ⟨rfl, hd.not_e⟩) ?_ (takeWhile_all hdot)
    (by rw [dropWhile_all hdot]; rfl) hv (by decide), if_pos (by omega)]
  rw [List.count_cons_of_ne (by decide), count_dot_digits hd]; decide

/-- `q` is the floor of the rational `a / b` -/
def IsFloorDiv (q a b : Nat) : Prop := q * b ≤ a ∧ a < (q + 1) * b

theorem isFloorDiv_div (a b : Nat) (hb : 0 < b) : IsFloorDiv (a / b) a b :=
  ⟨Nat.div_mul_le_self a b, by rw [Nat.mul_comm]; exact Nat.lt_mul_div_succ a hb⟩

theorem isFloorDiv_iff {q a b : Nat} (hb : 0 < b) : IsFloorDiv q a b ↔ q = a / b :=
  ⟨fun h => (Nat.div_eq_of_lt_le h.1 h.2).symm, fun h => h ▸ isFloorDiv_div a b hb⟩

theorem isFloorDiv_unique {q q' a b : Nat} (h : IsFloorDiv q a b) (h' : IsFloorDiv q' a b) : q = q' :=
  (Nat.div_eq_of_lt_le h.1 h.2).symm.trans (Nat.div_eq_of_lt_le h'.1 h'.2)

theorem scale_floor (n k : Nat) : IsFloorDiv (scale n k) (n * 10 ^ precision) (10 ^ k) := by
  rw [isFloorDiv_iff (Nat.pow_pos (by decide)), scale]
  split
  · next h => rw [← Nat.sub_add_cancel h, Nat.pow_add, ← Nat.mul_assoc, Nat.mul_div_cancel _ (Nat.pow_pos (by decide)),
      Nat.add_sub_cancel]
  · next h =>
    have h : precision ≤ k := Nat.le_of_not_le h
    rw [← Nat.sub_add_cancel h, Nat.pow_add, Nat.mul_div_mul_right _ _ (Nat.pow_pos (by decide)), Nat.add_sub_cancel]

/-- Decimal text `ip.fp` (value `digitsVal (ip++fp) / 10^|fp|`) parses to that value times 10⁸,
    truncated: the result is the floor of `digitsVal (ip++fp) · 10⁸ / 10^|fp|`. -/
theorem parse_truncates {ip fp : List Char} (hne : ip ++ fp ≠ [])
    (hi : AllDigits ip) (hf : AllDigits fp) (hlen : fp.length ≤ 2147483648) :
    ∃ q, parseDecimal (ip ++ '.' :: fp) = some q ∧
      IsFloorDiv q (digitsVal (ip ++ fp) * 10 ^ 8) (10 ^ fp.length) :=
  ⟨_, parseDecimal_plain hne hi hf hlen, scale_floor _ _⟩

theorem allDigits_toDigits (n : Nat) : AllDigits (Nat.toDigits 10 n) :=
  fun _ hc => Nat.isDigit_of_mem_toDigits (by omega) (by omega) hc

theorem digitsVal_toDigits (n : Nat) : digitsVal (Nat.toDigits 10 n) = n := by
  simp [digitsVal]

theorem digitsVal_zeros_append (k : Nat) (l : List Char) : digitsVal (List.replicate k '0' ++ l) = digitsVal l := by
  unfold digitsVal
  rw [Nat.ofDigitChars_append, Nat.ofDigitChars_replicate_zero]
  simp

theorem printAmount_parts (n : Nat) :
    ∃ ip fp, printAmount n = ip ++ '.' :: fp ∧ AllDigits ip ∧ AllDigits fp ∧ ip ≠ [] ∧
      fp.length = precision ∧ digitsVal (ip ++ fp) = n := by
  have hd := allDigits_toDigits n
  have hv := digitsVal_toDigits n
  unfold printAmount
  simp only
  generalize Nat.toDigits 10 n = s at hd hv
  split
  · next hlen =>
    refine ⟨_, _, rfl, fun c hc => hd c (List.mem_of_mem_take hc), fun c hc => hd c (List.mem_of_mem_drop hc),
      ?_, ?_, by rw [List.take_append_drop, hv]⟩
    · exact fun h => by have := congrArg List.length h; simp at this; omega
    · rw [List.length_drop]; omega
  · next hlen =>
    have h0 : AllDigits (List.replicate (precision - s.length) '0') :=
      fun c hc => by rw [(List.mem_replicate.mp hc).2]; rfl
    refine ⟨['0'], _, rfl, fun c hc => by rw [List.mem_singleton.mp hc]; rfl, allDigits_append h0 hd,
      List.cons_ne_nil _ _, ?_, (digitsVal_zeros_append 1 _).trans ((digitsVal_zeros_append _ _).trans hv)⟩
    rw [List.length_append, List.length_replicate]; omega

/-- The printed text is normalised: digits, one point, exactly eight fractional digits. -/
theorem print_normal (n : Nat) :
    ∃ ip fp, printAmount n = ip ++ '.' :: fp ∧ AllDigits ip ∧ AllDigits fp ∧ ip ≠ [] ∧ fp.length = 8 := by
  obtain ⟨ip, fp, h, hi, hf, hne, hl, _⟩ := printAmount_parts n
  exact ⟨ip, fp, h, hi, hf, hne, hl⟩

/-- Printing an amount and parsing the text gives the amount back. -/
theorem print_parse (n : Nat) : parseDecimal (printAmount n) = some n := by
  obtain ⟨ip, fp, h, hi, hf, hne, hl, hv⟩ := printAmount_parts n
  rw [h, parseDecimal_plain (by simp [hne]) hi hf (by rw [hl]; decide), hv, hl, scale, if_pos (Nat.le_refl _),
    Nat.sub_self, Nat.pow_zero, Nat.mul_one]

/-! ### arithmetic agrees with ℕ arithmetic exactly when defined -/

theorem ite_none_some {α : Type} {c d : Prop} [Decidable c] [Decidable d] (h : ¬c ↔ d) (v : α) :
    (if c then none else some v) = if d then some v else none := by
  by_cases hc : c
  · rw [if_pos hc, if_neg fun hd => h.mpr hd hc]
  · rw [if_neg hc, if_pos (h.mp hc)]

theorem add_spec (x y : Nat) : add x y = if 0 < y then some (x + y) else none :=
  ite_none_some (by omega) _
theorem sub_spec (x y : Nat) : sub x y = if 0 < y ∧ y ≤ x then some (x - y) else none :=
  ite_none_some (by omega) _
theorem sub_add_cancel {x y z : Nat} (h : sub x y = some z) : z + y = x := by
  obtain ⟨_, _, rfl⟩ := sub_some h
  omega
theorem mul_spec (x : Nat) (k : Int) : mul x k = if 0 < k then some (x * k.toNat) else none :=
  ite_none_some (by omega) _
theorem div_floor (x : Nat) (k : Int) (hk : 0 < k) : ∃ q, div x k = some q ∧ IsFloorDiv q x k.toNat :=
  ⟨x / k.toNat, if_neg (by omega), isFloorDiv_div x _ (by omega)⟩
theorem div_rejects (x : Nat) (k : Int) (hk : k ≤ 0) : div x k = none := if_pos hk
theorem count_spec (x y c : Nat) :
    count x y = some c ↔ 0 < y ∧ y ≤ x ∧ IsFloorDiv c x y ∧ c < 2 ^ 64 := by
  simp only [count, Option.ite_none_left_eq_some, Option.some.injEq]
  constructor
  · rintro ⟨h1, h2, rfl⟩
    have hy : 0 < y := by omega
    exact ⟨hy, by omega, isFloorDiv_div x y hy, by omega⟩
  · rintro ⟨hy, hle, hfl, hc⟩
    obtain rfl := (isFloorDiv_iff hy).mp hfl
    exact ⟨by omega, by omega, rfl⟩
theorem count_rejects (x y : Nat) : (y = 0 ∨ x < y ∨ 2 ^ 64 ≤ x / y) → count x y = none := by
  intro h
  refine Option.eq_none_iff_forall_ne_some.mpr fun c hc => ?_
  obtain ⟨hy, hle, hfl, hlt⟩ := (count_spec x y c).mp hc
  rw [(isFloorDiv_iff hy).mp hfl] at hlt
  omega

/-- `(x/y).product z` is the floor of `z·x / y`. -/
theorem ratio_product_floor (x y z : Nat) (hy : 0 < y) :
    ∃ r, ration x y = some r ∧ IsFloorDiv (r.product z) (z * x) y :=
  ⟨⟨x, y⟩, if_neg (by omega), isFloorDiv_div _ _ hy⟩

theorem cmp_spec (x y : Nat) : (cmp x y = -1 ↔ x < y) ∧ (cmp x y = 0 ↔ x = y) ∧ (cmp x y = 1 ↔ x > y) := by
  unfold cmp
  rcases Nat.lt_trichotomy x y with h | h | h
  · rw [if_pos h]; omega
  · rw [if_neg (by omega), if_pos h]; omega
  · rw [if_neg (by omega), if_neg (by omega)]; omega

/-- comparison of ratios is comparison of cross products (the order of ℚ for positive denominators) -/
theorem ratio_cmp_spec (r s : Ratio) :
    (r.cmp s = -1 ↔ r.x * s.y < s.x * r.y) ∧ (r.cmp s = 0 ↔ r.x * s.y = s.x * r.y) ∧
    (r.cmp s = 1 ↔ r.x * s.y > s.x * r.y) := by
  unfold Ratio.cmp
  rw [Nat.mul_comm r.y s.x]
  exact cmp_spec _ _

/-! ### non-vacuity: the hypotheses above are met by concrete inputs -/
example : parseDecimal "1.5".toList = some 150000000 := by decide +kernel
example : parseDecimal "0.123456789".toList = some 12345678 := by decide +kernel
example : parseDecimal "-0".toList = some 0 := by decide +kernel
example : parseDecimal "-1".toList = none := by decide +kernel
example : parseDecimal "1e-9".toList = some 0 := by decide +kernel
example : printAmount 150000000 = "1.50000000".toList := by decide +kernel
example : count 100 3 = some 33 := by decide +kernel

end Mixin.C33
