import Mixin.Proofs.Mint
import Mixin.Facts.ExpectedC25
/-!
# C25 — mint schedule and distribution are bounded, exact and work-monotone

Theorems about `Mixin.Model.Mint` (the model of `kernel/mint.go`). The schedule theorems hold
for every parameter record `P`; `…_params` instances use the constants regenerated from the
source tree and the relations of `Facts/ExpectedC25.lean`.
-/
namespace Mixin.C25
open Mixin.Amount Mixin.Mint

/-- Per-batch amounts never increase: whenever the Go code returns for both batches. -/
theorem batch_antitone (P : Params) {b b' x x' : Nat} (h : b ≤ b')
    (hb : mintBatchSize P b = some x) (hb' : mintBatchSize P b' = some x') : x' ≤ x := by
  rw [mintBatchSize_some hb, mintBatchSize_some hb']
  exact batchT_antitone P h

/-- The cumulative total of the batches `0 … b` (a batch on which the code panics counts 0)
    never exceeds the pool, for every `b`. -/
theorem cumulative_le_pool (P : Params) (hd : 0 < P.days) (hden : 0 < P.den) (hnum : P.num ≤ P.den)
    (b : Nat) : cum (batchVal P) (b + 1) ≤ P.pool :=
  Nat.le_trans (cum_le_cum (batchVal_le P) (b + 1)) (cum_batchT_le_pool P hd hden hnum (b + 1))

/-- … for the constants of the tree under test. -/
theorem cumulative_le_pool_params (b : Nat) : cum (batchVal params) (b + 1) ≤ params.pool :=
  cumulative_le_pool params Mixin.Facts.ExpectedC25.days_pos Mixin.Facts.ExpectedC25.percent_le_one.1
    Mixin.Facts.ExpectedC25.percent_le_one.2 b

/-- A multi-batch mint is defined exactly when `old < batch` and every batch in `(old, batch]`
    is defined and positive (`Integer.Add` panics on a zero summand), and then it is the sum of
    those batches. -/
theorem multi_is_sum (P : Params) (old b s : Nat) :
    mintMulti P old b = some s ↔
      old < b ∧ (∀ i, old < i → i ≤ b → PosBatch P i) ∧ s = sumFrom (batchVal P) (old + 1) (b - old) := by
  unfold mintMulti
  by_cases h : old ≥ b
  · rw [if_pos h]
    exact ⟨nofun, fun h' => absurd h'.1 (Nat.not_lt.mpr h)⟩
  · rw [if_neg h, multiLoop_some_iff, Nat.zero_add]
    constructor
    · rintro ⟨hp, hs⟩
      refine ⟨Nat.lt_of_not_le h, fun i hi1 hi2 => ?_, hs⟩
      have := hp (i - (old + 1)) (by omega)
      rwa [Nat.add_sub_of_le hi1] at this
    · rintro ⟨_, hp, hs⟩
      exact ⟨fun j hj => hp (old + 1 + j) (by omega) (by omega), hs⟩

theorem multi_add_cum (P : Params) {old b s : Nat} (h : mintMulti P old b = some s) :
    cum (batchVal P) (old + 1) + s = cum (batchVal P) (b + 1) := by
  obtain ⟨hlt, _, rfl⟩ := (multi_is_sum P old b s).mp h
  rw [← cum_add_sumFrom, show old + 1 + (b - old) = b + 1 by omega]

/-- `poolSizeUniversal` never exceeds the pool (when it returns). -/
theorem poolSize_le_pool (P : Params) {b r : Nat} (h : poolSize P b = some r) : r ≤ P.pool := by
  unfold poolSize at h
  cases h1 : poolSizeLoop P (b / P.days) 0 P.pool with
  | none => rw [h1] at h; cases h
  | some pr =>
    obtain ⟨mint, pool⟩ := pr
    rw [h1] at h; simp only at h
    cases h2 : div (yearOf P pool) (P.days : Int) with
    | none => rw [h2] at h; cases h
    | some day =>
      rw [h2] at h; simp only at h
      split at h
      · cases h
      · next m _ =>
        split at h
        · exact (sub_some h).2.2 ▸ Nat.sub_le _ _
        · cases h; exact Nat.le_refl _

theorem firstFalse_below (p : Nat → Bool) : ∀ (fuel y z : Nat), y ≤ z → z < firstFalse p fuel y → p z = true
  | 0, y, z, h1, h2 => by simp [firstFalse] at h2; omega
  | fuel + 1, y, z, h1, h2 => by
    unfold firstFalse at h2
    by_cases hp : p y = true
    · rw [if_pos hp] at h2
      by_cases hz : z = y
      · subst hz; exact hp
      · exact firstFalse_below p fuel (y + 1) z (by omega) h2
    · rw [if_neg hp] at h2; omega

theorem firstFalse_le (p : Nat → Bool) : ∀ (fuel y : Nat), firstFalse p fuel y ≤ y + fuel
  | 0, y => by simp [firstFalse]
  | fuel + 1, y => by
    unfold firstFalse
    split
    · have := firstFalse_le p fuel (y + 1); omega
    · omega

theorem firstFalse_stop (p : Nat → Bool) : ∀ (fuel y : Nat), firstFalse p fuel y < y + fuel →
    p (firstFalse p fuel y) = false
  | 0, y, h => by simp [firstFalse] at h
  | fuel + 1, y, h => by
    unfold firstFalse at h ⊢
    by_cases hp : p y = true
    · rw [if_pos hp] at h ⊢
      exact firstFalse_stop p fuel (y + 1) (by omega)
    · rw [if_neg hp]; simpa using hp

theorem posBatchB_iff (P : Params) (b : Nat) : posBatchB P b = true ↔ PosBatch P b := by
  unfold posBatchB PosBatch
  cases mintBatchSize P b <;> simp

theorem mintBatchSize_year (P : Params) (hd : 0 < P.days) (b : Nat) :
    mintBatchSize P b = mintBatchSize P (b / P.days * P.days) := by
  unfold mintBatchSize
  rw [Nat.mul_div_cancel _ hd]

theorem posBatch_down (P : Params) {b b' : Nat} (h : b ≤ b') (hb' : PosBatch P b') : PosBatch P b := by
  obtain ⟨x', hx', hm'⟩ := hb'
  obtain ⟨hy, hd, hq, rfl⟩ := mintBatchSize_eq_some.mp hm'
  have hle : b / P.days ≤ b' / P.days := Nat.div_le_div_right h
  exact ⟨batchT P b, Nat.lt_of_lt_of_le hx' (batchT_antitone P h),
    mintBatchSize_eq_some.mpr ⟨Nat.le_trans hle hy, hd, poolAfter_prefix hle hq, rfl⟩⟩

/-- Exactly the batches of the years below the horizon are defined and positive. -/
theorem posBatch_iff_below_horizon (P : Params) (hd : 0 < P.days) (b : Nat) :
    PosBatch P b ↔ b / P.days < horizonYear P := by
  let p : Nat → Bool := fun y => posBatchB P (y * P.days)
  constructor
  · intro hb
    apply Decidable.byContradiction
    intro hge
    -- otherwise the search stopped within `maxYears`, at a year not after that of `b`, whose first batch is positive
    have ⟨_, _, hx⟩ := hb
    have hmax := (mintBatchSize_eq_some.mp hx).1
    have hlt : horizonYear P < 0 + (P.maxYears + 1) := by omega
    have hstop : p (horizonYear P) = false := firstFalse_stop p (P.maxYears + 1) 0 hlt
    have h1 : horizonYear P * P.days ≤ b :=
      Nat.le_trans (Nat.mul_le_mul_right _ (Nat.le_of_not_lt hge)) (Nat.div_mul_le_self b P.days)
    exact Bool.false_ne_true (hstop.symm.trans ((posBatchB_iff P _).mpr (posBatch_down P h1 hb)))
  · intro hlt
    have := firstFalse_below p (P.maxYears + 1) 0 (b / P.days) (Nat.zero_le _) hlt
    have := (posBatchB_iff P _).mp this
    unfold PosBatch at this ⊢
    rwa [← mintBatchSize_year P hd b] at this

/-- A multi-batch mint is defined exactly for `old < batch` with `batch` below the horizon. -/
theorem multi_defined_iff (P : Params) (hd : 0 < P.days) (old b : Nat) :
    (mintMulti P old b).isSome = true ↔ old < b ∧ b / P.days < horizonYear P := by
  constructor
  · intro h
    cases hs : mintMulti P old b with
    | none => rw [hs] at h; cases h
    | some s =>
      obtain ⟨h1, h2, _⟩ := (multi_is_sum P old b s).mp hs
      exact ⟨h1, (posBatch_iff_below_horizon P hd b).mp (h2 b h1 (Nat.le_refl _))⟩
  · rintro ⟨h1, h2⟩
    have hb := (posBatch_iff_below_horizon P hd b).mpr h2
    have := (multi_is_sum P old b (sumFrom (batchVal P) (old + 1) (b - old))).mpr
      ⟨h1, fun i _ hi => posBatch_down P hi hb, rfl⟩
    rw [this]; rfl

/-- The shares of the work based distribution never sum to more than the amount distributed. -/
theorem dist_sum_le_base {works : List (Nat × Nat)} {base thr : Nat} {shares : List Nat}
    (h : distributeByWorks works base thr = .ok shares) : shares.sum ≤ base := by
  obtain ⟨_, _, _, hpos, hsh⟩ := distributeByWorks_ok h
  by_cases hw : works = []
  · subst hw; rw [hsh]; simp [adjWorks]
  · have ht := hpos hw
    have := sum_map_div_mul_le base (adjWorks works).sum (adjWorks works)
    rw [hsh]
    unfold shareT
    exact Nat.le_of_mul_le_mul_right this ht

/-- A node with more work never receives less: for every work vector on which the
    distribution returns, `work i ≤ work j → share i ≤ share j` (works are the raw
    `lead·1.2 + sign` values of the previous day). -/
theorem dist_monotone {works : List (Nat × Nat)} {base thr : Nat} {shares : List Nat}
    (h : distributeByWorks works base thr = .ok shares) :
    shares.length = works.length ∧
    ∀ (i j : Nat) wi wj si sj, works[i]? = some wi → works[j]? = some wj → shares[i]? = some si →
      shares[j]? = some sj → workT wi ≤ workT wj → si ≤ sj := by
  obtain ⟨_, _, _, _, hsh⟩ := distributeByWorks_ok h
  refine ⟨by rw [hsh]; simp [adjWorks], ?_⟩
  intro i j wi wj si sj hwi hwj hsi hsj hle
  rw [hsh, adjWorks] at hsi hsj
  simp only [List.getElem?_map, hwi, hwj, Option.map_some, Option.some.injEq] at hsi hsj
  rw [← hsi, ← hsj]
  unfold shareT
  exact Nat.div_le_div_right (Nat.mul_le_mul_left _ (adjT_mono _ hle))

/-- Every share is positive under the guard `42 ≤ average work` and `16·n ≤ base`.
    (Each adjusted work is at least `⌊avg/7⌋` and at most `2·avg`.) -/
theorem dist_positive {works : List (Nat × Nat)} {base thr : Nat} {shares : List Nat}
    (h : distributeByWorks works base thr = .ok shares) (havg : 42 ≤ avgT works)
    (hbase : 16 * works.length ≤ base) : ∀ s ∈ shares, 0 < s := by
  obtain ⟨_, _, _, hpos, rfl⟩ := distributeByWorks_ok h
  intro s hs
  obtain ⟨a, ha, rfl⟩ := List.mem_map.mp hs
  have hne : works ≠ [] := fun h0 => by rw [h0] at ha; cases ha
  have htot : (adjWorks works).sum ≤ works.length * (2 * avgT works) := by
    have := sum_le_length_mul (l := adjWorks works) (c := 2 * avgT works) fun x hx => by
      obtain ⟨w, _, rfl⟩ := List.mem_map.mp hx
      exact adjT_le _ _
    rwa [adjWorks, List.length_map, List.length_map] at this
  obtain ⟨w, _, rfl⟩ := List.mem_map.mp ha
  apply Nat.div_pos _ (hpos hne)
  -- total ≤ n·2·avg ≤ 16·n·⌊avg/7⌋ ≤ base·a. The middle step is avg ≤ 8·⌊avg/7⌋, which holds from 42 on
  -- (it fails at 41) and is why 16 = 2·8 appears in the guard on `base`. kernel/mint.go checks neither guard:
  -- there a zero share makes `Integer.Add` panic and no transaction is built (`outputs_positive`).
  calc (adjWorks works).sum ≤ works.length * (2 * avgT works) := htot
    _ ≤ works.length * (16 * (avgT works / 7)) := Nat.mul_le_mul_left _ (by omega)
    _ = 16 * works.length * (avgT works / 7) := by rw [← Nat.mul_assoc, Nat.mul_comm works.length 16]
    _ ≤ base * adjT (avgT works) w := Nat.mul_le_mul hbase (adjT_ge _ _)

/-- On the first day after the epoch the kernel share is split equally. -/
theorem dist_day0 {n : Nat} {today spaces : List Nat} {works : List (Nat × Nat)} {base thr : Nat} {shares : List Nat}
    (h : distribute n 0 today spaces works base thr = .ok shares) :
    0 < n ∧ shares = List.replicate n (base / n) := by
  unfold distribute at h
  simp only [Int.lt_irrefl, if_false, if_true] at h
  cases hd : div base (n : Int) with
  | none => rw [hd] at h; cases h
  | some w =>
    rw [hd] at h; simp only at h
    have := div_some hd
    cases h
    exact ⟨by omega, by rw [this.2]; simp⟩

theorem distribute_works {n : Nat} {gap : Int} {today spaces : List Nat} {works : List (Nat × Nat)}
    {base thr : Nat} {shares : List Nat} (hgap : 0 < gap)
    (h : distribute n gap today spaces works base thr = .ok shares) :
    distributeByWorks works base thr = .ok shares := by
  unfold distribute at h
  rw [if_neg (by omega), if_neg (by omega)] at h
  split at h
  · cases h
  · exact h

/-- `distribute` never hands out more than `base`, on day 0 and afterwards. -/
theorem distribute_sum_le_base {n : Nat} {gap : Int} {today spaces : List Nat} {works : List (Nat × Nat)}
    {base thr : Nat} {shares : List Nat}
    (h : distribute n gap today spaces works base thr = .ok shares) : shares.sum ≤ base := by
  rcases Int.lt_trichotomy gap 0 with hneg | rfl | hpos
  · unfold distribute at h
    rw [if_pos hneg] at h; cases h
  · obtain ⟨_, rfl⟩ := dist_day0 h
    rw [List.sum_replicate_nat]
    exact Nat.mul_div_le base n
  · exact dist_sum_le_base (distribute_works hpos h)

/-- the distribution `buildUniversalMintTransaction` applies to the kernel share -/
abbrev distOf (n : Nat) (gap : Int) (today spaces : List Nat) (works : List (Nat × Nat)) (thr : Nat) :
    Nat → DistOut := fun k => distribute n gap today spaces works k thr

variable {batch amount n thr : Nat} {gap : Int} {today spaces : List Nat} {works : List (Nat × Nat)}
  {mints : List Nat} {safe light : Nat}

/-- The outputs of a mint transaction sum exactly to the batch amount. -/
theorem dist_sums_exact
    (h : buildOutputs batch amount (distOf n gap today spaces works thr) = .tx mints safe light) :
    mints.sum + safe + light = amount := (buildOutputs_tx h).sum_eq

/-- The kernel-node share is at most half of the batch amount. -/
theorem kernel_le_half
    (h : buildOutputs batch amount (distOf n gap today spaces works thr) = .tx mints safe light) :
    2 * mints.sum ≤ amount := by
  have hb := buildOutputs_tx h
  have hk := distribute_sum_le_base hb.dist_ok
  have := hb.sum_eq
  omega

/-- The custodian share is four times one tenth of the batch amount, rounded down. -/
theorem custodian_is_4_tenths
    (h : buildOutputs batch amount (distOf n gap today spaces works thr) = .tx mints safe light) :
    safe = amount / 10 * 4 := (buildOutputs_tx h).safe_eq

/-- Every output of a mint transaction the code builds is positive (a zero kernel share makes
    `Integer.Add` panic, so no transaction is built), and the light share is at least a tenth. -/
theorem outputs_positive
    (h : buildOutputs batch amount (distOf n gap today spaces works thr) = .tx mints safe light) :
    (∀ m ∈ mints, 0 < m) ∧ 0 < safe ∧ 0 < light ∧ amount / 10 ≤ light := by
  obtain ⟨ha, _, hd, hs, hs0, hm, hsum⟩ := buildOutputs_tx h
  have hk := distribute_sum_le_base hd
  -- kernel ≤ 5 tenths and custodian = 4 tenths leave the light share the rest
  have : 0 < light ∧ amount / 10 ≤ light := by omega
  exact ⟨hm, hs0, this⟩

/-- A mint transaction is only built after the legacy ending and for a positive amount. -/
theorem build_guard
    (h : buildOutputs batch amount (distOf n gap today spaces works thr) = .tx mints safe light) :
    0 < amount ∧ legacyEnding < batch := ⟨(buildOutputs_tx h).amount_pos, (buildOutputs_tx h).after_legacy⟩

/-- `checkUniversalMintPossibility` returning a positive batch: the timestamp lies strictly after the
    epoch inside the mint hour window, the batch is its day index, not below the last mint; equal
    to it only to re-validate the recorded amount; beyond it the amount is the multi-batch amount
    of the schedule. -/
structure MintPossible (P : Params) (epoch ts : Nat) (vo : Bool) (lb la b a : Nat) : Prop where
  after_epoch : epoch < ts
  hour_ge : mintTimeBegin ≤ (ts - epoch) / hourNs % 24
  hour_le : (ts - epoch) / hourNs % 24 ≤ mintTimeEnd
  batch_eq : b = (ts - epoch) / hourNs / 24
  last_le : lb ≤ b
  revalidate : b = lb → vo = true ∧ a = la
  multi : lb < b → mintMulti P lb b = some a

theorem mintPossibility_pos (P : Params) {epoch ts lb la b a : Nat} {vo : Bool}
    (h : mintPossibility P epoch ts vo lb la = some (b, a)) (hb : 0 < b) : MintPossible P epoch ts vo lb la b a := by
  have h00 : some (0, 0) ≠ some (b, a) := fun e => by cases e; exact Nat.lt_irrefl 0 hb
  obtain ⟨h1, h⟩ := of_ite_eq h h00
  obtain ⟨h2, h⟩ := of_ite_eq h h00
  obtain ⟨h3, h⟩ := of_ite_eq h h00
  obtain ⟨h4, h⟩ := of_ite_eq h h00
  have hwin := not_or.mp h3
  by_cases h5 : (ts - epoch) / hourNs / 24 = lb
  · rw [if_pos h5] at h
    cases vo
    · exact absurd h h00
    · cases h
      exact ⟨Nat.lt_of_not_le h1, Nat.le_of_not_lt hwin.1, Nat.le_of_not_lt hwin.2, rfl, Nat.le_of_eq h5.symm,
        fun _ => ⟨rfl, rfl⟩, fun hlt => absurd h5 (Nat.ne_of_gt hlt)⟩
  · rw [if_neg h5] at h
    split at h
    · cases h
    · next x hm =>
      cases h
      exact ⟨Nat.lt_of_not_le h1, Nat.le_of_not_lt hwin.1, Nat.le_of_not_lt hwin.2, rfl, Nat.le_of_not_lt h4,
        fun e => absurd e h5, fun _ => hm⟩

/-- Mints are only possible inside the mint hour window, strictly after the epoch. -/
theorem mint_window (P : Params) {epoch ts lb la b a : Nat} {vo : Bool}
    (h : mintPossibility P epoch ts vo lb la = some (b, a)) (hb : 0 < b) :
    epoch < ts ∧ mintTimeBegin ≤ (ts - epoch) / hourNs % 24 ∧ (ts - epoch) / hourNs % 24 ≤ mintTimeEnd ∧
      b = (ts - epoch) / hourNs / 24 :=
  have hp := mintPossibility_pos P h hb
  ⟨hp.after_epoch, hp.hour_ge, hp.hour_le, hp.batch_eq⟩

example : (mintBatchSize params 1707).isSome = true := by decide +kernel
example : (mintMulti params 1706 1709).isSome = true := by decide +kernel
example : (poolSize params 1707).isSome = true := by decide +kernel
example : PosBatch params 1707 := (posBatchB_iff _ _).mp (by decide +kernel)
/- the value of `horizonYear params` is printed by the model driver and compared with a scan of the real
   code (`horizon` op). -/
example : ∃ s, distributeByWorks [(10, 100), (20, 300), (5, 50), (0, 0), (40, 900), (11, 120), (9, 80)] 4493835616 5
    = .ok s := ⟨_, rfl⟩
example : ∃ m s l, buildOutputs 1707 8987671232
    (distOf 7 1 [1, 1, 1, 1, 1, 1, 1] [1, 1, 1, 1, 1, 1, 1] [(10, 100), (20, 300), (5, 50), (0, 0), (40, 900), (11, 120), (9, 80)] 5)
    = .tx m s l := ⟨_, _, _, rfl⟩
example : 42 ≤ avgT [(10, 100), (20, 300), (5, 50), (0, 0), (40, 900), (11, 120), (9, 80)] := by decide +kernel

end Mixin.C25
