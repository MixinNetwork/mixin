import Mixin.Props.C17
/-!
  C16 — transactions that validate together can always be finalized.

  FULL STATEMENT (false of the code as it is, see the counterexamples below):

    theorem validated_batch_finalizes (P : Params) (st : State) (snap : Snap) (sg : Nat) :
      Reach P st →
      (∀ t ∈ snap.txs, ∃ tx, aget st.txs t = some tx ∧
          (finalized st t ∨ `tx passed validate, LockInputs and WriteTransaction on the way to st`)) →
      debugAsserts st snap = true → aget st.topo snap.topo = none →          -- the snapshot's own batch rules
      (WriteSnapshot P.cap st snap sg).1 = none

  What is proved instead: `validated_batch_finalizes_partial`, under the explicit hypothesis `Ready` for every
  member in the state it meets. `Ready` lists exactly what the proof needs from a not yet finalized member:
    (1) it has an input;                                                     [Validate: inputs ≥ 1]
    (2) if its first input is a deposit, the stored asset info is absent or equal;   ← NOT provided by
        validation when two pending first deposits of an unseen asset disagree  (counterexample 2)
    (3) every output type is in the UnspentOutputs table;                    [Validate: type ≠ unknown + per-type rules]
    (4) every ghost key of a materialised output is free or held by the transaction;  [Validate: LockGhostKeys]
    (5) a withdrawal claim references a stored, finalized transaction;       [validateReferences]
    (6) the asset has info once (2) ran;                                     [invariant: a spendable output of the asset exists]
    (7) the arithmetic of writeTotalInAsset is defined;                      [C17.supply_sub_defined for submits, amounts > 0]
    (8) total + minted value ≤ capacity.                                     ← NOT provided by validation:
        verifyDepositData reads the stored total, which other pending deposits do not change (counterexample 1),
        and skips the comparison altogether when the asset has no info yet (counterexample 3); mints are never
        compared with the capacity.
  Missing for the full statement: that (2) and (8) follow from validation — they do not — and the persistence of
  (4)–(7) across the other members of the batch (they hold in the states the model produces in every generated
  history; not proved in general).
-/
namespace Mixin.C16
open Mixin.Ledger

def keysFree (st : State) (t : Id) (ks : List Id) : Prop := ∀ k ∈ ks, aget st.ghost k = none ∨ aget st.ghost k = some t

structure Ready (cap : Id → Nat) (st : State) (tx : Tx) : Prop where
  hasInput : tx.inputs ≠ []                                          -- (1)
  infoAgrees : ∀ k c ak am r, tx.inputs = .deposit k c ak am :: r →  -- (2)
      aget st.assetInfo tx.asset = none ∨ aget st.assetInfo tx.asset = some (c, ak)
  known : outputsKnown tx.outputs = true                             -- (3)
  ghosts : keysFree st tx.id (ghostKeys tx)                          -- (4)
  claimRef : (∃ o ∈ tx.outputs, o.typ = .withdrawalClaim) →          -- (5)
      ∃ r rest b s, tx.refs = r :: rest ∧ aget st.txs r = some b ∧ aget st.fin r = some s
  hasInfo : (∃ k c ak am r, tx.inputs = .deposit k c ak am :: r) ∨ (aget st.assetInfo tx.asset).isSome  -- (6)
  arith : ∃ r, newTotal tx (readTotal st tx.asset) = .ok r           -- (7)
  withinCap : readTotal st tx.asset + minted tx ≤ cap tx.asset       -- (8)

theorem keysFree.mono {st st2 : State} {t : Id} {ks : List Id} (h : keysFree st t ks)
    (e : GhostExt t st.ghost st2.ghost) : keysFree st2 t ks :=
  fun k hk => (e k).elim (fun e' => e' ▸ h k hk) .inr

theorem lockGhostKeys_ok {ks : List Id} {st : State} {t : Id} (h : keysFree st t ks) :
    ∃ st', lockGhostKeys ks st t = .ok st' := by
  induction ks generalizing st with
  | nil => exact ⟨st, rfl⟩
  | cons k r ih =>
    obtain ⟨s1, h1⟩ : ∃ s1, lockGhostKey st k t = .ok s1 := by
      unfold lockGhostKey
      rcases h k List.mem_cons_self with e | e <;> rw [e]
      · exact ⟨_, rfl⟩
      · exact ⟨st, if_pos rfl⟩
    obtain ⟨g, eg, rfl⟩ := lockGhostKey_frame h1
    obtain ⟨s2, h2⟩ := ih (st := { st with ghost := g })
      (keysFree.mono (fun x hx => h x (List.mem_cons_of_mem _ hx)) eg)
    exact ⟨s2, by simp [lockGhostKeys, h1, h2]⟩

theorem writeOutputs_ok {outs : List Output} {idx : Nat} {st : State} {tx : Tx} {ts : Nat}
    (hg : keysFree st tx.id (outs.flatMap (·.keys)))
    (hc : (∃ o ∈ outs, o.typ = .withdrawalClaim) →
      ∃ r rest b s, tx.refs = r :: rest ∧ aget st.txs r = some b ∧ aget st.fin r = some s) :
    ∃ st', writeOutputs outs idx st tx ts = .ok st' := by
  induction outs generalizing st idx with
  | nil => exact ⟨st, rfl⟩
  | cons o r ih =>
    rw [List.flatMap_cons] at hg
    have hgo : keysFree st tx.id o.keys := fun k hk => hg k (List.mem_append_left _ hk)
    have hgr : keysFree st tx.id (r.flatMap (·.keys)) := fun k hk => hg k (List.mem_append_right _ hk)
    have hcr : (∃ o ∈ r, o.typ = .withdrawalClaim) → _ :=
      fun ⟨o', ho', e⟩ => hc ⟨o', List.mem_cons_of_mem _ ho', e⟩
    simp only [writeOutputs]
    split
    · obtain ⟨s2, h2⟩ : ∃ s2, writeUTXO st tx ts idx o = .ok s2 := by
        obtain ⟨s1, h1⟩ := lockGhostKeys_ok hgo
        obtain ⟨g, _, rfl⟩ := lockGhostKeys_frame h1
        unfold writeUTXO
        simp only [h1]
        split
        any_goals exact ⟨_, rfl⟩
        · rename_i ht
          obtain ⟨x, rest, b, s, hr, hb, hs⟩ := hc ⟨o, by simp, ht⟩
          unfold writeWithdrawalClaim
          simp [hr, hb, hs]
      obtain ⟨g, w, n, eg, rfl⟩ := writeUTXO_frame h2
      simp only [h2]
      -- the written state differs from `st` in the ghost, UTXO, withdrawal and node families only
      exact ih (hgr.mono eg) hcr
    · exact ih hgr hcr

/-- the part of `finalizeTransaction` after the asset-info step, which left the asset with info -/
theorem finalize_tail {cap : Id → Nat} {st : State} {tx : Tx} (snap ts : Nat) (h : Ready cap st tx)
    (hn : aget st.fin tx.id = none) (ai : List (Id × (Id × Id))) (hi : (aget ai tx.asset).isSome = true) :
    ∃ st', (if (!outputsKnown tx.outputs) = true then Except.error Fail.panic
            else match writeOutputs tx.outputs 0 { st with fin := aset st.fin tx.id snap, assetInfo := ai } tx ts with
              | .error e => .error e
              | .ok st3 => writeTotal cap st3 tx) = Except.ok st' := by
  simp only [h.known, Bool.not_true, Bool.false_eq_true, if_false]
  obtain ⟨st3, h3⟩ := writeOutputs_ok (idx := 0) (ts := ts)
    (st := { st with fin := aset st.fin tx.id snap, assetInfo := ai }) h.ghosts fun hx =>
      let ⟨r, rest, b, s, hr, hb, hs⟩ := h.claimRef hx
      ⟨r, rest, b, s, hr, hb, aget_aset_of_none snap hn hs⟩
  simp only [h3]
  obtain ⟨_, _, _, _, e3⟩ := writeOutputs_frame h3
  have hai : st3.assetInfo = ai := by rw [e3]
  have T3 : readTotal st3 tx.asset = readTotal st tx.asset := by rw [e3]; rfl
  obtain ⟨r, hr⟩ := h.arith
  unfold writeTotal
  rw [hai, T3]
  cases hi' : aget ai tx.asset with
  | none => rw [hi'] at hi; cases hi
  | some v =>
    simp only [hr]
    cases r with
    | none => exact ⟨_, rfl⟩
    | some t =>
      have sp := newTotal_spec hr
      have := h.withinCap
      simp only [Option.getD_some] at sp
      have : ¬ t > cap tx.asset := by omega
      simp only [this, if_false]
      exact ⟨_, rfl⟩

/-- a single ready member finalizes -/
theorem ready_tx_finalizes {cap : Id → Nat} {st : State} {tx : Tx} (snap ts : Nat) (h : Ready cap st tx) :
    ∃ st', finalizeTransaction cap st tx snap ts = .ok st' := by
  cases hn : aget st.fin tx.id with
  | some s => exact ⟨st, finalizeTransaction_old hn⟩
  | none =>
    unfold finalizeTransaction
    simp only [hn]
    cases hin : tx.inputs with
    | nil => exact absurd hin h.hasInput
    | cons in0 rest =>
      cases in0 with
      | deposit k c ak am =>
        simp only [writeAssetInfo]
        rcases h.infoAgrees k c ak am rest hin with e | e
        · simp only [e]
          exact finalize_tail snap ts h hn _ (by simp [aget_aset_eq])
        · simp only [e, if_true]
          exact finalize_tail snap ts h hn _ (by simp [e])
      | utxo a b => exact finalize_tail snap ts h hn _ (h.hasInfo.resolve_left (by simp [hin]))
      | mint a b => exact finalize_tail snap ts h hn _ (h.hasInfo.resolve_left (by simp [hin]))
      | genesis => exact finalize_tail snap ts h hn _ (h.hasInfo.resolve_left (by simp [hin]))

/-- every member is ready in the state it meets (the states are the ones the model itself produces) -/
def BatchReady (cap : Id → Nat) : List Id → State → Snap → Prop
  | [], _, _ => True
  | t :: r, st, snap =>
    ∃ tx, aget st.txs t = some tx ∧ Ready cap st tx ∧
      (∀ st', finalizeTransaction cap st tx snap.id snap.ts = .ok st' →
        BatchReady cap r { st' with unique := aset st'.unique (t, snap.node) () } snap)

theorem batch_finalizes {cap : Id → Nat} {l : List Id} {st : State} {snap : Snap} (h : BatchReady cap l st snap) :
    ∃ st', finalizeAll cap l st snap = .ok st' := by
  induction l generalizing st with
  | nil => exact ⟨st, rfl⟩
  | cons t r ih =>
    obtain ⟨tx, htx, hr, hn⟩ := h
    obtain ⟨s1, h1⟩ := ready_tx_finalizes snap.id snap.ts hr
    obtain ⟨s2, h2⟩ := ih (hn s1 h1)
    exact ⟨s2, by simp [finalizeAll, htx, h1, h2]⟩

/-- **Partial form of C16.** If the snapshot passes its own batch rules (fresh snapshot, bodies stored, not yet
    included by this node, free topology slot) and every member is `Ready` — in particular the pending deposit and
    mint amounts of each asset plus its total stay within the capacity, and pending first deposits agree on the
    asset info — then writing the finalized snapshot succeeds. -/
theorem validated_batch_finalizes_partial (cap : Id → Nat) (st : State) (snap : Snap) (sg : Nat)
    (hd : debugAsserts st snap = true) (htopo : aget st.topo snap.topo = none)
    (hb : BatchReady cap snap.txs st snap) : (WriteSnapshot cap st snap sg).1 = none := by
  obtain ⟨s1, h1⟩ := batch_finalizes hb
  obtain ⟨_, _, ht, _⟩ := finalizeAll_frame h1
  simp [WriteSnapshot, atomic, writeSnapshotTxn, hd, writeSnapshotInner, h1, ht, htopo]

/-! ### the node's own validation (`validateSnapshotTransaction`): two paths

  The premise of C16 is what `kernelValidate` accepts. A body found in the persistent store is trusted;
  a cached body is validated, locked and persisted. The two lemmas below are what makes "presenting a
  refused transaction again gives the same verdict" true of the model: refusing at `Validate` never
  persists the body, so the next presentation takes the validating path again. -/

/-- a cached transaction refused by `Validate` leaves no body behind -/
theorem refused_is_not_persisted (P : Params) (st : State) (snap : Id) (multi fin : Bool) (tx : Tx)
    (hc : aget st.txs tx.id = none) (hv : (validate P st tx fin).1 = false) :
    (kernelValidateTx P st snap multi fin tx).1 = some .err ∧
    aget (kernelValidateTx P st snap multi fin tx).2.txs tx.id = none := by
  have htx : (validate P st tx fin).2.txs = st.txs := by
    obtain ⟨g, e⟩ := validate_frame P st tx fin
    rw [e]
  unfold kernelValidateTx
  simp only [hc]
  split
  · rename_i st1 he
    have : (validate P st tx fin).2 = st1 := by rw [he]
    rw [← this, htx]
    exact ⟨rfl, hc⟩
  · rename_i st1 he
    rw [he] at hv
    cases hv

/-- a persisted body is trusted: no validation, no state change -/
theorem persisted_is_trusted (P : Params) (st : State) (snap : Id) (multi fin : Bool) (tx b : Tx)
    (hb : aget st.txs tx.id = some b) : (kernelValidateTx P st snap multi fin tx).2 = st := by
  unfold kernelValidateTx
  simp only [hb]
  repeat' split
  all_goals rfl

/-- a proposal (not a finalized snapshot) that carries a transaction finalized in another snapshot is
    refused at signing: "transaction … finalized in snapshot …" -/
theorem finalized_elsewhere_refused (P : Params) (st : State) (snap s : Id) (multi : Bool) (tx b : Tx)
    (hb : aget st.txs tx.id = some b) (hf : aget st.fin tx.id = some s) (hne : s ≠ snap) :
    (kernelValidateTx P st snap multi false tx).1 = some .err := by
  unfold kernelValidateTx
  simp [hb, hf, hne]

/-- what that rule protects: writing a snapshot of a node that already included one of its transactions
    trips the uniqueness assertion of `WriteSnapshot` (a panic inside `TopoWrite`), and nothing is written -/
theorem reincluded_transaction_panics (cap : Id → Nat) (st : State) (snap : Snap) (sg : Nat) (t : Id)
    (ht : t ∈ snap.txs) (hu : aget st.unique (t, snap.node) = some ()) :
    WriteSnapshot cap st snap sg = (some .panic, st) := by
  have hd : debugAsserts st snap = false := by
    unfold debugAsserts
    have : (snap.txs.all fun txh => (aget st.txs txh).isSome && (aget st.unique (txh, snap.node)).isNone) = false := by
      rw [List.all_eq_false]
      exact ⟨t, ht, by simp [hu]⟩
    simp [this]
  simp [WriteSnapshot, atomic, writeSnapshotTxn, hd]

/-! ### the property is false of the code as it is: three concrete witnesses

  Amounts in whole units; asset 2 has capacity 2500 (Bitcoin in `GetAssetCapacity`), asset 6 is uncapped.
  Each witness is replayed on the real code by the harness (`knownShapes` in harness/c15_ledger_gen.go). -/

def P : Params := { cap := fun a => if a = 2 then 2500 else 1000000, xin := 1, claimFee := 1 }

/-- validate, lock inputs, persist: what `validateSnapshotTransaction` does for a cached transaction -/
def persistPending (st : State) (tx : Tx) : State :=
  (WriteTransaction (LockInputs (validate P st tx false).2 tx false).2 tx).2

def btcSeen : State := { assetInfo := [(2, (2, 102))], total := [(2, 0)] }
def d1 : Tx := ⟨10, 2, [.deposit 1 2 102 2000], [⟨.script, 2000, [501]⟩], [], true, true⟩
def d2 : Tx := ⟨11, 2, [.deposit 2 2 102 2000], [⟨.script, 2000, [502]⟩], [], true, true⟩
def snapD : Snap := ⟨100, 1, 1, 11, 8, [10, 11]⟩

/-- **Counterexample 1** (`C16:pending-deposits-exceed-capacity`): two deposits of 2000 against a capacity of
    2500. Each validates (against the stored total, which a pending deposit does not change), both lock and
    persist, the snapshot passes its batch rules, and `WriteSnapshot` panics in `writeTotalInAsset`. -/
theorem validated_batch_finalizes_counterexample :
    (validate P btcSeen d1 false).1 = true ∧ (validate P (persistPending btcSeen d1) d2 false).1 = true ∧
    debugAsserts (persistPending (persistPending btcSeen d1) d2) snapD = true ∧
    aget (persistPending (persistPending btcSeen d1) d2).topo snapD.topo = none ∧
    (WriteSnapshot P.cap (persistPending (persistPending btcSeen d1) d2) snapD 0).1 = some .panic := by decide

/-- the same two deposits in two snapshots: the first is written, the second panics -/
theorem validated_batch_finalizes_counterexample_sequential :
    let s := persistPending (persistPending btcSeen d1) d2
    (WriteSnapshot P.cap s ⟨100, 1, 1, 11, 8, [10]⟩ 0).1 = none ∧
    (WriteSnapshot P.cap (WriteSnapshot P.cap s ⟨100, 1, 1, 11, 8, [10]⟩ 0).2 ⟨101, 2, 1, 12, 9, [11]⟩ 0).1 = some .panic := by
  decide

def f1 : Tx := ⟨20, 6, [.deposit 3 6 106 5], [⟨.script, 5, [503]⟩], [], true, true⟩
def f2 : Tx := ⟨21, 6, [.deposit 4 6 206 7], [⟨.script, 7, [504]⟩], [], true, true⟩

/-- **Counterexample 2** (`C16:pending-first-deposits-conflicting-asset-info`): two pending first deposits of an
    asset id nobody deposited before, with different asset keys. Nothing binds an asset id to (chain, key) until the
    first finalization writes `ASSETINFO`; both validate and persist, the second finalization returns an error
    (fatal in `TopoWrite`). -/
theorem conflicting_first_deposits_counterexample :
    (validate P {} f1 false).1 = true ∧ (validate P (persistPending {} f1) f2 false).1 = true ∧
    debugAsserts (persistPending (persistPending {} f1) f2) ⟨100, 1, 1, 11, 8, [20, 21]⟩ = true ∧
    (WriteSnapshot P.cap (persistPending (persistPending {} f1) f2) ⟨100, 1, 1, 11, 8, [20, 21]⟩ 0).1 = some .err := by decide

def big : Tx := ⟨30, 2, [.deposit 5 2 102 3000], [⟨.script, 3000, [505]⟩], [], true, true⟩

/-- **Counterexample 3** (`C16:first-deposit-of-unseen-asset-above-capacity`): a single first deposit of a capped
    asset above its capacity. `verifyDepositData` returns before the capacity comparison when the asset has no
    info yet. No interaction between transactions is needed. -/
theorem first_deposit_above_capacity_counterexample :
    (validate P {} big false).1 = true ∧
    debugAsserts (persistPending {} big) ⟨100, 1, 1, 11, 8, [30]⟩ = true ∧
    (WriteSnapshot P.cap (persistPending {} big) ⟨100, 1, 1, 11, 8, [30]⟩ 0).1 = some .panic := by decide

/-! ### non-vacuity of the partial theorem: one of the two deposits alone is `Ready` and is written -/

def okDep : Tx := ⟨10, 2, [.deposit 1 2 102 2000], [⟨.script, 2000, [501]⟩], [], true, true⟩

example : Ready P.cap (persistPending btcSeen okDep) okDep := by
  refine ⟨by decide, ?_, by decide, ?_, ?_, ?_, ?_, ?_⟩
  · intro k c ak am r e
    simp only [okDep, List.cons.injEq, Input.deposit.injEq] at e
    obtain ⟨⟨_, rfl, rfl, _⟩, _⟩ := e
    right; decide
  · intro k hk
    simp only [ghostKeys, okDep, List.flatMap_cons, List.flatMap_nil, List.append_nil, List.mem_singleton] at hk
    subst hk
    right; decide
  · rintro ⟨o, ho, e⟩
    simp only [okDep, List.mem_singleton] at ho
    subst ho; cases e
  · left; exact ⟨1, 2, 102, 2000, [], rfl⟩
  · exact ⟨some 2000, rfl⟩
  · decide

example : (WriteSnapshot P.cap (persistPending btcSeen okDep) ⟨100, 1, 1, 11, 8, [10]⟩ 0).1 = none := by decide

end Mixin.C16
