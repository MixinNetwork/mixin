import Mixin.Facts.ExpectedC26
import Mixin.Model.Work
import Mixin.Proofs.Basics
/-!
# C26 — node work is credited exactly once per snapshot

Theorems about `Mixin.Model.Work` (the model of `storage/badger_work.go:WriteRoundWork`).

The specification is a *ledger that knows nothing about rounds or checkpoints* (`G`): a snapshot
of a node is credited when it is first seen — ever — by an accepted, non-stale submission with
`credit = true` (whose first new snapshot has signers: the code's own condition). The main theorem
shows that the per-round checkpoint of the code implements exactly this ledger for every history of
submissions whose snapshots (a) have distinct hashes within one call, (b) have duplicate-free
signer lists and (c) belong to one round each (`rnd`), whatever the interleaving of nodes, rounds,
re-submissions, growing sets, stale rounds, credit flags and panicking calls.
Hypotheses (a)–(c) are not asserted by the code; the harness runs the excluded points
(`submitx`) and they do double count there. The kernel's only caller reads the
works of one round from keys `(node, round, timestamp)`, which satisfies them.
-/
namespace Mixin.C26
open Mixin.Work

theorem getC_addC (k k' : Hash × Nat) (n : Nat) (m : List ((Hash × Nat) × Nat)) :
    getC k' (addC k n m) = if k = k' then getC k m + n else getC k' m := rfl

theorem creditSigners_cons (node : Hash) (d : Nat) (si : Hash) (rest : List Hash)
    (m : List ((Hash × Nat) × Nat)) :
    creditSigners node d (si :: rest) m =
      creditSigners node d rest (if si = node then m else addC (si, d) 1 m) := rfl

theorem getC_creditSigners (node : Hash) (d : Nat) (signers : List Hash) :
    ∀ (m : List ((Hash × Nat) × Nat)) (x : Hash) (d' : Nat),
      getC (x, d') (creditSigners node d signers m) =
        getC (x, d') m + (if x ≠ node ∧ d' = d then signers.count x else 0) := by
  induction signers with
  | nil => intro m x d'; simp [creditSigners]
  | cons si rest ih =>
    intro m x d'
    rw [creditSigners_cons, ih]
    by_cases hsn : si = node
    · subst hsn
      by_cases hx : x ≠ si ∧ d' = d
      · have : ¬ si = x := fun hc => hx.1 hc.symm
        simp [hx, this]
      · simp [hx]
    · simp only [hsn, if_false, getC_addC]
      by_cases hk : (si, d) = (x, d')
      · cases hk
        simp [hsn]; omega
      · by_cases hx : x ≠ node ∧ d' = d
        · have : ¬ si = x := by
            intro hc; apply hk; rw [hc, hx.2]
          simp [hx, this]
        · simp [hk, hx]

theorem count_allSigners (x : Hash) (fresh : List Snap) :
    (allSigners fresh).count x = signerCount x fresh := by
  induction fresh with
  | nil => simp [allSigners, signerCount]
  | cons w r ih =>
    simp only [allSigners, signerCount] at ih ⊢
    simp [List.count_append, ih]

theorem signerCount_nodup (x : Hash) (fresh : List Snap) (hn : ∀ w ∈ fresh, w.signers.Nodup) :
    signerCount x fresh = (fresh.filter (fun w => x ∈ w.signers)).length := by
  induction fresh with
  | nil => simp [signerCount]
  | cons w r ih =>
    have hw := hn w (by simp)
    have hr : ∀ w' ∈ r, w'.signers.Nodup := fun w' h => hn w' (by simp [h])
    simp only [signerCount, List.map_cons, List.sum_cons] at ih ⊢
    rw [ih hr, hw.count]
    by_cases hx : x ∈ w.signers
    · simp [List.filter, hx]; omega
    · simp [List.filter, hx]

/-- the snapshots a call credits: all new ones, or none (first new snapshot without signers, or
    `credit = false`) -/
def creditedOf (fresh : List Snap) (credit : Bool) : List Snap :=
  match fresh with
  | [] => []
  | f0 :: _ => if f0.signers = [] ∨ credit = false then [] else fresh

theorem creditStep_some (s1 s' : S) (node : Hash) (fresh : List Snap) (credit : Bool)
    (hcs : creditStep s1 node fresh credit = some s') :
    creditedOf fresh credit = [] ∧ s' = s1 ∨
    creditedOf fresh credit = fresh ∧ ∃ D, (∀ w ∈ fresh, day w = D) ∧
      s' = { s1 with sign := creditSigners node D (allSigners fresh) s1.sign,
                     lead := addC (node, D) fresh.length s1.lead } := by
  cases fresh with
  | nil => exact .inl ⟨rfl, (Option.some.inj hcs).symm⟩
  | cons f0 rest =>
    rw [creditStep] at hcs
    rw [creditedOf]
    by_cases hc : f0.signers = [] ∨ credit = false
    · rw [if_pos hc] at hcs ⊢; exact .inl ⟨rfl, (Option.some.inj hcs).symm⟩
    rw [if_neg hc] at hcs ⊢
    obtain ⟨hbad, hcs⟩ := of_ite_eq hcs nofun
    obtain ⟨hcnt, hcs⟩ := of_ite_eq hcs nofun
    rw [Classical.not_not.mp hcnt] at hcs
    refine .inr ⟨rfl, day f0, fun w hw => ?_, (Option.some.inj hcs).symm⟩
    -- `w` is not a bad work of day `day f0`
    have hw : ¬ (w.ts = 0 ∨ day w ≠ day f0 ∨ w.hash = 0) := fun hb => hbad ⟨w, hw, hb⟩
    exact Classical.byContradiction fun hd => hw (.inr (.inl hd))

theorem credit_counts (s1 s' : S) (node : Hash) (fresh : List Snap) (credit : Bool)
    (hcs : creditStep s1 node fresh credit = some s') (hn : ∀ w ∈ fresh, w.signers.Nodup) :
    s'.off = s1.off ∧
    (∀ n d, getC (n, d) s'.lead = getC (n, d) s1.lead +
      ((creditedOf fresh credit).filter (fun w => node = n ∧ day w = d)).length) ∧
    (∀ x d, getC (x, d) s'.sign = getC (x, d) s1.sign +
      ((creditedOf fresh credit).filter (fun w => x ∈ w.signers ∧ x ≠ node ∧ day w = d)).length) := by
  rcases creditStep_some s1 s' node fresh credit hcs with ⟨hco, rfl⟩ | ⟨hco, D, hday, rfl⟩ <;> rw [hco]
  · exact ⟨rfl, fun _ _ => rfl, fun _ _ => rfl⟩
  -- all new snapshots are of day `D`: each filter keeps all of them, those signed by `x`, or none
  refine ⟨rfl, fun n d => ?_, fun x d => ?_⟩
  · show getC (n, d) (addC (node, D) fresh.length s1.lead) = _
    rw [getC_addC]
    by_cases hk : node = n ∧ D = d
    · rw [if_pos (by rw [hk.1, hk.2]), List.filter_eq_self.mpr fun w hw =>
        decide_eq_true ⟨hk.1, (hday w hw).trans hk.2⟩, hk.1, hk.2]
    · rw [if_neg fun h => hk (by cases h; exact ⟨rfl, rfl⟩), List.filter_eq_nil_iff.mpr fun w hw h =>
        hk ⟨(of_decide_eq_true h).1, hday w hw ▸ (of_decide_eq_true h).2⟩]
      rfl
  · show getC (x, d) (creditSigners node D (allSigners fresh) s1.sign) = _
    rw [getC_creditSigners, count_allSigners, signerCount_nodup x _ hn]
    by_cases hk : x ≠ node ∧ d = D
    · rw [if_pos hk, List.filter_congr fun w hw => decide_eq_decide.mpr
        (and_iff_left ⟨hk.1, (hday w hw).trans hk.2.symm⟩)]
    · rw [if_neg hk, List.filter_eq_nil_iff.mpr fun w hw h =>
        hk ⟨(of_decide_eq_true h).2.1, (hday w hw ▸ (of_decide_eq_true h).2.2).symm⟩]
      rfl

structure G where
  /-- `(node, snapshot hash)` pairs that an accepted, non-stale submission contained -/
  seen : List (Hash × Hash)
  /-- `(node, snapshot)` pairs that were credited -/
  credited : List (Hash × Snap)

def gEmpty : G := ⟨[], []⟩

/-- ledger update for one `WriteRoundWork` call: nothing if the call panics or is stale; else the
    snapshots never seen before (for that node) become seen, and are credited under the code's
    condition. No reference to the checkpoint. -/
def gStep (g : G) (s : S) (node : Hash) (round : Nat) (snaps : List Snap) (credit : Bool) : G :=
  if writeRoundWork s node round snaps credit = none ∨ (readOff node s.off).1 > round then g
  else
    { seen := (snaps.filter (fun ss => (node, ss.hash) ∉ g.seen)).map (fun ss => (node, ss.hash)) ++ g.seen,
      credited := (creditedOf (snaps.filter (fun ss => (node, ss.hash) ∉ g.seen)) credit).map
        (fun ss => (node, ss)) ++ g.credited }

/-- proposal credits the ledger gives `n` on day `d` -/
def leadSpec (g : G) (n : Hash) (d : Nat) : Nat :=
  (g.credited.filter (fun c => c.1 = n ∧ day c.2 = d)).length

/-- signing credits the ledger gives `x` on day `d`: credited snapshots of other nodes that `x` signed -/
def signSpec (g : G) (x : Hash) (d : Nat) : Nat :=
  (g.credited.filter (fun c => x ∈ c.2.signers ∧ x ≠ c.1 ∧ day c.2 = d)).length

/-- the preconditions of one call (not asserted by the code) -/
def WF (rnd : Hash → Hash → Nat) (node : Hash) (round : Nat) (snaps : List Snap) : Prop :=
  (snaps.map (·.hash)).Nodup ∧ ∀ ss ∈ snaps, rnd node ss.hash = round ∧ ss.signers.Nodup

/-- the code's state and the ledger in step: what the ledger has seen of a node lies in rounds up
    to the node's checkpoint, and of the checkpointed round it is exactly the checkpoint; the
    counters are the ledger's; a pair is credited once, and only if seen -/
structure J (rnd : Hash → Hash → Nat) (s : S) (g : G) : Prop where
  seenRound : ∀ n h, (n, h) ∈ g.seen → rnd n h ≤ (readOff n s.off).1 ∧
    (rnd n h = (readOff n s.off).1 → h ∈ (readOff n s.off).2)
  ckptSeen : ∀ n h, h ∈ (readOff n s.off).2 → (n, h) ∈ g.seen
  lead : ∀ n d, getC (n, d) s.lead = leadSpec g n d
  sign : ∀ x d, getC (x, d) s.sign = signSpec g x d
  nodup : (g.credited.map (fun c => (c.1, c.2.hash))).Nodup
  credSeen : ∀ c ∈ g.credited, (c.1, c.2.hash) ∈ g.seen

theorem J_empty (rnd : Hash → Hash → Nat) : J rnd empty gEmpty :=
  ⟨nofun, nofun, fun _ _ => rfl, fun _ _ => rfl, List.nodup_nil, nofun⟩

theorem creditedOf_sublist (fresh : List Snap) (credit : Bool) : (creditedOf fresh credit).Sublist fresh := by
  cases fresh with
  | nil => exact List.nil_sublist _
  | cons f0 rest =>
    rw [creditedOf]
    split
    · exact List.nil_sublist _
    · exact List.Sublist.refl _

theorem freshOf_some {off round : Nat} {osm : List Hash} {snaps fresh : List Snap}
    (hf : freshOf off osm round snaps = some fresh) :
    round = off ∧ (∀ id ∈ osm, id ∈ snaps.map (·.hash)) ∧
        fresh = snaps.filter (fun ss => ss.hash ∉ osm) ∨
      round ≠ off ∧ fresh = snaps := by
  rw [freshOf] at hf
  by_cases hr : round = off
  · rw [if_pos hr] at hf
    by_cases hc : ∀ id ∈ osm, id ∈ snaps.map (·.hash)
    · rw [if_pos hc] at hf; exact .inl ⟨hr, hc, (Option.some.inj hf).symm⟩
    · rw [if_neg hc] at hf; cases hf
  · rw [if_neg hr] at hf; exact .inr ⟨hr, (Option.some.inj hf).symm⟩

/-- the checkpoint filter of the code selects exactly the snapshots the ledger has never seen -/
theorem fresh_eq (rnd : Hash → Hash → Nat) (s : S) (g : G) (hJ : J rnd s g) (node : Hash) (round : Nat)
    (snaps fresh : List Snap) (hwf : WF rnd node round snaps)
    (h1 : (readOff node s.off).1 ≤ round)
    (hf : freshOf (readOff node s.off).1 (readOff node s.off).2 round snaps = some fresh) :
    fresh = snaps.filter (fun ss => (node, ss.hash) ∉ g.seen) := by
  rcases freshOf_some hf with ⟨hr, _, rfl⟩ | ⟨hr, rfl⟩
  · refine List.filter_congr fun ss hss => ?_
    rw [decide_eq_decide]
    exact not_congr ⟨hJ.ckptSeen node ss.hash,
      fun hs => (hJ.seenRound node ss.hash hs).2 (by rw [(hwf.2 ss hss).1, hr])⟩
  · refine (List.filter_eq_self.mpr fun ss hss => ?_).symm
    rw [decide_eq_true_eq]
    intro hs
    have := (hJ.seenRound node ss.hash hs).1
    rw [(hwf.2 ss hss).1] at this
    omega

theorem readOff_cons (node n : Hash) (v : Nat × List Hash) (m : List (Hash × (Nat × List Hash))) :
    readOff n ((node, v) :: m) = if node = n then v else readOff n m := rfl

theorem writeRoundWork_some {s s' : S} {node : Hash} {round : Nat} {snaps : List Snap} {credit : Bool}
    (hw : writeRoundWork s node round snaps credit = some s') :
    round < (readOff node s.off).1 ∧ s' = s ∨
    (readOff node s.off).1 ≤ round ∧
      ∃ fresh, freshOf (readOff node s.off).1 (readOff node s.off).2 round snaps = some fresh ∧
        creditStep { s with off := (node, (round, snaps.map (·.hash))) :: s.off } node fresh credit
          = some s' := by
  rw [writeRoundWork] at hw
  by_cases hst : (readOff node s.off).1 > round
  · rw [if_pos hst] at hw; exact .inl ⟨hst, (Option.some.inj hw).symm⟩
  rw [if_neg hst] at hw
  obtain ⟨_, hw⟩ := of_ite_eq hw nofun
  cases hf : freshOf (readOff node s.off).1 (readOff node s.off).2 round snaps <;> rw [hf] at hw
  case none => cases hw
  case some fresh => exact .inr ⟨Nat.le_of_not_gt hst, fresh, rfl, hw⟩

theorem length_filter_credited (node : Hash) (cl : List Snap) (old : List (Hash × Snap))
    (p : Hash × Snap → Bool) :
    ((cl.map (fun ss => (node, ss)) ++ old).filter p).length =
      (old.filter p).length + (cl.filter (fun ss => p (node, ss))).length := by
  rw [List.filter_append, List.length_append, List.filter_map, List.length_map, Nat.add_comm]
  rfl

theorem J_step (rnd : Hash → Hash → Nat) (s s' : S) (g : G) (hJ : J rnd s g) (node : Hash) (round : Nat)
    (snaps : List Snap) (credit : Bool) (hwf : WF rnd node round snaps)
    (hw : writeRoundWork s node round snaps credit = some s') :
    J rnd s' (gStep g s node round snaps credit) := by
  rcases writeRoundWork_some hw with ⟨hst, rfl⟩ | ⟨hle, fresh, hf, hcs⟩
  · rw [gStep, if_pos (.inr hst)]; exact hJ
  have hfe := fresh_eq rnd s g hJ node round snaps fresh hwf hle hf
  have hmem (w : Snap) : w ∈ fresh ↔ w ∈ snaps ∧ (node, w.hash) ∉ g.seen := by
    rw [hfe, List.mem_filter, decide_eq_true_eq]
  obtain ⟨hoff', hlead, hsign⟩ :=
    credit_counts _ s' node fresh credit hcs fun w hw' => (hwf.2 w ((hmem w).mp hw').1).2
  have hcred := (creditedOf_sublist fresh credit).subset
  have hoff (n : Hash) : readOff n s'.off =
      if node = n then (round, snaps.map (·.hash)) else readOff n s.off :=
    hoff' ▸ readOff_cons node n _ _
  rw [gStep, if_neg (not_or.mpr ⟨by rw [hw]; nofun, Nat.not_lt.mpr hle⟩), ← hfe]
  refine ⟨fun n h hm => ?_, fun n h hm => ?_, fun n d => ?_, fun x d => ?_, ?_, fun c hc => ?_⟩
  · rw [hoff n]
    rcases List.mem_append.mp hm with hm | hm
    · obtain ⟨ss, hss, heq⟩ := List.mem_map.mp hm
      cases heq
      have hss := ((hmem ss).mp hss).1
      rw [if_pos rfl, (hwf.2 ss hss).1]
      exact ⟨Nat.le_refl _, fun _ => List.mem_map_of_mem hss⟩
    · have ho := hJ.seenRound n h hm
      by_cases hn : node = n
      · subst hn
        rw [if_pos rfl]
        refine ⟨Nat.le_trans ho.1 hle, fun hr => ?_⟩
        -- the round is the checkpointed one, so the call had to cover the checkpoint
        have hr : rnd node h = round := hr
        have hro : round = (readOff node s.off).1 := Nat.le_antisymm (hr ▸ ho.1) hle
        rcases freshOf_some hf with ⟨_, hc, _⟩ | ⟨hne, _⟩
        · exact hc h (ho.2 (hr.trans hro))
        · exact absurd hro hne
      · rw [if_neg hn]; exact ho
  · rw [hoff n] at hm
    by_cases hn : node = n
    · subst hn
      rw [if_pos rfl] at hm
      obtain ⟨ss, hss, rfl⟩ := List.mem_map.mp hm
      by_cases hs : (node, ss.hash) ∈ g.seen
      · exact List.mem_append_right _ hs
      · exact List.mem_append_left _
          (List.mem_map.mpr ⟨ss, (hmem ss).mpr ⟨hss, hs⟩, rfl⟩)
    · rw [if_neg hn] at hm; exact List.mem_append_right _ (hJ.ckptSeen n h hm)
  · rw [hlead n d, hJ.lead n d, leadSpec, leadSpec, length_filter_credited]
  · rw [hsign x d, hJ.sign x d, signSpec, signSpec, length_filter_credited]
  · have hC : (creditedOf fresh credit).Pairwise (fun a b => a.hash ≠ b.hash) :=
      (List.pairwise_map.mp hwf.1).sublist
        ((creditedOf_sublist fresh credit).trans (hfe ▸ List.filter_sublist))
    show (List.map _ (_ ++ _)).Nodup
    rw [List.map_append, List.map_map]
    refine List.nodup_append.mpr ⟨hC.map _ fun a b hab h => hab (Prod.mk.inj h).2, hJ.nodup, ?_⟩
    intro a ha b hb hab
    obtain ⟨ss, hss, rfl⟩ := List.mem_map.mp ha
    obtain ⟨c, hc, rfl⟩ := List.mem_map.mp hb
    have hab : (node, ss.hash) = (c.1, c.2.hash) := hab
    exact ((hmem ss).mp (hcred hss)).2 (hab ▸ hJ.credSeen c hc)
  · rcases List.mem_append.mp hc with hc | hc
    · obtain ⟨ss, hss, rfl⟩ := List.mem_map.mp hc
      exact List.mem_append_left _ (List.mem_map_of_mem (hcred hss))
    · exact List.mem_append_right _ (hJ.credSeen c hc)

def gStepOp (g : G) (s : S) : Op → G
  | .submit node round snaps credit => gStep g s node round snaps credit
  | _ => g

def wfOp (rnd : Hash → Hash → Nat) : Op → Prop
  | .submit node round snaps _ => WF rnd node round snaps
  | _ => True

instance (rnd : Hash → Hash → Nat) (op : Op) : Decidable (wfOp rnd op) := by
  cases op <;> unfold wfOp WF <;> exact inferInstance

/-- code state and ledger after a history -/
def gRun : S → G → List Op → S × G
  | s, g, [] => (s, g)
  | s, g, op :: ops => gRun (step s op).1 (gStepOp g s op) ops

theorem J_run (rnd : Hash → Hash → Nat) (ops : List Op) :
    ∀ s g, J rnd s g → (∀ op ∈ ops, wfOp rnd op) → J rnd (gRun s g ops).1 (gRun s g ops).2 := by
  induction ops with
  | nil => intro s g hJ _; exact hJ
  | cons op ops ih =>
    intro s g hJ hwf
    have hrest : ∀ op' ∈ ops, wfOp rnd op' := fun o ho => hwf o (List.mem_cons_of_mem _ ho)
    simp only [gRun]
    apply ih _ _ _ hrest
    cases op with
    | submit node round snaps credit =>
      have hw : WF rnd node round snaps := hwf (.submit node round snaps credit) (by simp)
      simp only [step, gStepOp]
      cases hwr : writeRoundWork s node round snaps credit with
      | none => rw [gStep, if_pos (.inl hwr)]; exact hJ
      | some s' => exact J_step rnd s s' g hJ node round snaps credit hw hwr
    | works node d => exact hJ
    | offset node => exact hJ

/-- **credit_exactly_once**: after every history of submissions (any nodes, rounds, repetitions,
    growing sets, stale rounds, credit flags, panicking calls) whose calls satisfy `WF`, the
    counters the code stores are exactly the ledger's: one proposal credit to the proposer and one
    signing credit to each other signer, on the snapshot's own day, for every credited snapshot —
    and no `(node, snapshot)` is in the ledger twice. -/
theorem credit_exactly_once (rnd : Hash → Hash → Nat) (ops : List Op) (hwf : ∀ op ∈ ops, wfOp rnd op) :
    (∀ n d, getC (n, d) (gRun empty gEmpty ops).1.lead = leadSpec (gRun empty gEmpty ops).2 n d) ∧
    (∀ x d, getC (x, d) (gRun empty gEmpty ops).1.sign = signSpec (gRun empty gEmpty ops).2 x d) ∧
    ((gRun empty gEmpty ops).2.credited.map (fun c => (c.1, c.2.hash))).Nodup := by
  have hJ := J_run rnd ops empty gEmpty (J_empty rnd) hwf
  exact ⟨hJ.lead, hJ.sign, hJ.nodup⟩

theorem gRun_state (ops : List Op) : ∀ s g, (gRun s g ops).1 = final s ops := by
  induction ops with
  | nil => intro s g; rfl
  | cons op ops ih => intro s g; simp [gRun, final, ih]

def exSnap (h : Hash) (t : Nat) (sg : List Hash) : Snap := ⟨h, 100 * dayLen + t, sg⟩

/-- a concrete history meeting the hypotheses: growing set, replay, next round, stale replay -/
def exOps : List Op :=
  [.submit 1 0 [exSnap 1 5 [1, 2]] true,
   .submit 1 0 [exSnap 1 5 [1, 2]] true,
   .submit 1 0 [exSnap 1 5 [1, 2], exSnap 2 6 [2, 1, 3]] true,
   .submit 1 1 [exSnap 3 7 [1, 2]] false,
   .submit 1 1 [exSnap 3 7 [1, 2], exSnap 4 8 [1, 3]] true,
   .submit 1 0 [exSnap 1 5 [1, 2]] true]

example : ∀ op ∈ exOps, wfOp (fun _ h => if h ≤ 2 then 0 else 1) op := by
  decide

example : (getC (1, 100) (final empty exOps).lead, getC (2, 100) (final empty exOps).sign,
    getC (3, 100) (final empty exOps).sign) = (3, 2, 2) := by decide

/-- **stale_round_noop**: a submission for a round below the checkpoint changes nothing -/
theorem stale_round_noop (s : S) (node : Hash) (round : Nat) (snaps : List Snap) (credit : Bool)
    (h : round < (readOff node s.off).1) :
    writeRoundWork s node round snaps credit = some s := by
  rw [writeRoundWork, if_pos h]

/-- **growing_set_adds_delta**: re-submitting the checkpointed round with a set that contains the
    checkpoint runs the credit section on exactly the new snapshots (and panics iff that does);
    with `credit_counts`, the counters grow by the credits of the delta and nothing else. -/
theorem growing_set_adds_delta (s : S) (node : Hash) (snaps : List Snap) (credit : Bool)
    (hsup : ∀ id ∈ (readOff node s.off).2, id ∈ snaps.map (·.hash)) :
    writeRoundWork s node (readOff node s.off).1 snaps credit =
      creditStep { s with off := (node, ((readOff node s.off).1, snaps.map (·.hash))) :: s.off } node
        (snaps.filter (fun ss => ss.hash ∉ (readOff node s.off).2)) credit := by
  unfold writeRoundWork freshOf
  dsimp only
  rw [if_neg (by omega), if_neg (by omega), if_pos rfl, if_pos hsup]

/-- **resubmit_idempotent**: re-submitting the checkpointed round with the same set of snapshots
    (any order; after a crash or a retry) never panics and changes no counter; only the checkpoint
    is rewritten, with the same round and the same set. -/
theorem resubmit_idempotent (s : S) (node : Hash) (snaps : List Snap) (credit : Bool)
    (hsup : ∀ id ∈ (readOff node s.off).2, id ∈ snaps.map (·.hash))
    (hsub : ∀ ss ∈ snaps, ss.hash ∈ (readOff node s.off).2) :
    ∃ s', writeRoundWork s node (readOff node s.off).1 snaps credit = some s' ∧
      s'.lead = s.lead ∧ s'.sign = s.sign ∧
      readOff node s'.off = ((readOff node s.off).1, snaps.map (·.hash)) := by
  rw [growing_set_adds_delta s node snaps credit hsup]
  rw [List.filter_eq_nil_iff.mpr fun ss hss => by simp [hsub ss hss]]
  exact ⟨_, rfl, rfl, rfl, by simp [readOff]⟩

example : (step (final empty exOps) (.submit 1 1 [exSnap 4 8 [1, 3], exSnap 3 7 [1, 2]] true)).1.lead
    = (final empty exOps).lead := by decide

/-- the excluded points of `WF` do double count in the model, as they do in the code:
    the same hash twice in one call … -/
theorem duplicate_in_call_counterexample :
    getC (1, 100) (final empty [.submit 1 1 [exSnap 1 5 [1], exSnap 1 5 [1]] true]).lead = 2 := by decide

/-- … and a hash that comes back in the next round -/
theorem hash_in_two_rounds_counterexample :
    getC (1, 100) (final empty [.submit 1 1 [exSnap 1 5 [1]] true, .submit 1 2 [exSnap 1 5 [1]] true]).lead
      = 2 := by decide

/-! ## the read-back path (`AggregateMintWork`: records → reader → `WriteRoundWork`) -/

theorem mem_insertRec (k : RecKey) (v : Hash × List Hash) (l : List (RecKey × (Hash × List Hash))) :
    (k, v) ∈ insertRec k v l := by
  induction l with
  | nil => exact List.mem_singleton_self _
  | cons x xs ih =>
    rw [insertRec]
    by_cases h1 : recLt k x.1
    · rw [if_pos h1]; exact List.mem_cons_self ..
    rw [if_neg h1]
    by_cases h2 : k = x.1
    · rw [if_pos h2]; exact List.mem_cons_self ..
    · rw [if_neg h2]; exact List.mem_cons_of_mem _ ih

/-- **reader_identity**: a work record written for `(node, round)` is read back with its own
    hash, timestamp and signer list -/
theorem reader_identity (x : SR) (node : Hash) (round ts : Nat) (h : Hash) (sg : List Hash) :
    ({ hash := h, ts := ts, signers := sg } : Snap) ∈ readWorks (writeWork x node round ts h sg) node round := by
  simp only [readWorks, writeWork, List.mem_map, List.mem_filter]
  exact ⟨((node, round, ts), (h, sg)), ⟨mem_insertRec _ _ _, by simp⟩, rfl⟩

/-- **read_back_is_submit**: aggregating a round is `WriteRoundWork` applied to what the reader
    returns, so every theorem above applies to the aggregated round with the records as written -/
theorem read_back_is_submit (x : SR) (node : Hash) (round : Nat) (credit : Bool) :
    (submitRead x node round credit).map (·.s) =
      writeRoundWork x.s node round (readWorks x node round) credit := by
  unfold submitRead
  cases writeRoundWork x.s node round (readWorks x node round) credit <;> simp

/- snapshots of one round signed by different quorums: each signer is credited for the snapshots
    it signed -/
example :
    let x := writeWork (writeWork (writeWork emptySR 1 1 (100 * dayLen + 1) 11 [1, 2, 3]) 1 1
      (100 * dayLen + 2) 12 [1, 4]) 1 1 (100 * dayLen + 3) 13 [3, 1]
    (submitRead x 1 1 true).map (fun y => (getC (1, 100) y.s.lead, getC (2, 100) y.s.sign,
      getC (3, 100) y.s.sign, getC (4, 100) y.s.sign)) = some (3, 1, 2, 1) := by decide

end Mixin.C26
