import Mixin.Proofs.Supply
import Mixin.Props.C15
import Mixin.Facts.ExpectedC17
/-!
  C17 — asset supply equals the value held in unconsumed outputs.

  `unspent st a` is what a UTXO scan computes: the amounts of the outputs of asset `a` whose lock holder has no
  finalization record. `readTotal st a` is `ASSETTOTAL[a]`. The per-transaction conservation that validation
  provides enters as the explicit hypothesis `Conserving`: value locked by the transaction + value it creates =
  value it materialises + value it burns. Props/BridgeC01C17.lean discharges it from acceptance by the model of
  `VersionedTransaction.Validate` (property C01).
-/
namespace Mixin.C17
open Mixin.Ledger Mixin.C15

/-- what validation + input locking establish for a transaction about to be finalized (C01):
    only its own asset is involved, and value in = value out -/
def Conserving (st : State) (tx : Tx) : Prop :=
  (∀ a, a ≠ tx.asset → lockedBy st tx.id a = 0) ∧
  lockedBy st tx.id tx.asset + minted tx = matSum tx.outputs + burnt tx

/-- the outputs of a transaction are written by its first finalization only -/
def FreshOut (st : State) (tx : Tx) : Prop := ∀ j, aget st.utxo (tx.id, j) = none

/-- the invariant: recorded total = value in outputs not consumed by a finalized transaction -/
def SupplyEq (st : State) : Prop := ∀ a, readTotal st a = unspent st a

def CapOK (cap : Id → Nat) (st : State) : Prop := ∀ a, readTotal st a ≤ cap a

theorem finalize_total {cap : Id → Nat} {st st' : State} {tx : Tx} {snap ts : Nat}
    (hn : aget st.fin tx.id = none) (h : finalizeTransaction cap st tx snap ts = .ok st') (a : Id) :
    readTotal st' a + (if a = tx.asset then burnt tx else 0) =
      readTotal st a + (if a = tx.asset then minted tx else 0) := by
  obtain ⟨_, _, _, _, T, r, hr, _, hT, rfl⟩ := finalizeTransaction_new hn h
  show (aget T a).getD 0 + _ = _
  rw [hT a]
  split
  · rename_i e; subst e; exact newTotal_spec hr
  · rfl

/-- what a first finalization does to the two sides of the invariant -/
theorem finalize_step {cap : Id → Nat} {st st' : State} {tx : Tx} {snap ts : Nat}
    (hn : aget st.fin tx.id = none) (hfresh : FreshOut st tx)
    (h : finalizeTransaction cap st tx snap ts = .ok st') (a : Id) :
    unspent st' a + lockedBy st tx.id a = unspent st a + (if tx.asset = a then matSum tx.outputs else 0) ∧
    readTotal st' a + (if a = tx.asset then burnt tx else 0) =
      readTotal st a + (if a = tx.asset then minted tx else 0) := by
  refine ⟨?_, finalize_total hn h a⟩
  obtain ⟨_, _, _, _, _, _, _, _, _, rfl⟩ := finalizeTransaction_new hn h
  rw [unspent_eq, unspent_eq]
  show sumIf (live (aset st.fin tx.id snap) a) (asetAll st.utxo (newEntries tx tx.outputs 0)) + _ = _
  rw [sumIf_asetAll _ (newEntries_fresh fun j _ => hfresh j), sumIf_newEntries_live,
    live_finalize a st.utxo hn (s := snap)]
  unfold lockedBy
  omega

/-- **The induction step of the supply invariant.** -/
theorem finalize_preserves_supply {cap : Id → Nat} {st st' : State} {tx : Tx} {snap ts : Nat}
    (hs : SupplyEq st) (hn : aget st.fin tx.id = none) (hfresh : FreshOut st tx) (hc : Conserving st tx)
    (h : finalizeTransaction cap st tx snap ts = .ok st') : SupplyEq st' := by
  intro a
  have ⟨h1, h2⟩ := finalize_step hn hfresh h a
  have := hs a
  by_cases e : a = tx.asset
  · subst e
    have := hc.2
    simp only [if_true] at h1 h2
    omega
  · have e' : ¬ tx.asset = a := fun x => e x.symm
    have := hc.1 a e
    simp only [e, e', if_false] at h1 h2
    omega

/-! ### the capacity assertion -/

theorem finalize_capOK {cap : Id → Nat} {st st' : State} {tx : Tx} {snap ts : Nat}
    (hc : CapOK cap st) (h : finalizeTransaction cap st tx snap ts = .ok st') : CapOK cap st' := by
  cases hn : aget st.fin tx.id with
  | some s => rw [finalizeTransaction_old hn] at h; cases h; exact hc
  | none =>
    obtain ⟨_, _, _, _, T, r, _, hle, hT, rfl⟩ := finalizeTransaction_new hn h
    intro a
    show (aget T a).getD 0 ≤ cap a
    rw [hT a]
    split
    · rename_i e
      have := hc tx.asset
      rw [e]; omega
    · exact hc a

theorem finalizeAll_capOK {cap : Id → Nat} {l : List Id} {st st' : State} {snap : Snap}
    (hc : CapOK cap st) (h : finalizeAll cap l st snap = .ok st') : CapOK cap st' :=
  finalizeAll_induct (P := CapOK cap) (fun _ _ _ _ hs _ h1 a => finalize_capOK hs h1 a) hc h

theorem applyOp_capOK (P : Params) (st : State) (op : Op) (hc : CapOK P.cap st) : CapOK P.cap (applyOp P st op) := by
  rcases applyOp_cases P st op with ⟨_, _, _, _, _, e⟩ | ⟨_, _, _, hfa, e⟩ <;> rw [e]
  · exact hc
  · exact fun a => finalizeAll_capOK hc hfa a

/-- **Never above capacity.** In every state reached from one within capacity by any history of
    validations, locks, body writes and snapshot writes, `total a ≤ cap a` for every asset. (The Go
    assertion is a failing step of the model; C16 says when it can fire.) -/
theorem supply_le_cap (P : Params) (ops : List Op) (st : State) (hc : CapOK P.cap st) :
    CapOK P.cap (run P st ops) := by
  induction ops generalizing st with
  | nil => exact hc
  | cons op r ih => exact ih _ (applyOp_capOK P st op hc)

/-! ### the subtraction in the withdrawal branch -/

theorem subSubmits_defined {outs : List Output} {T : Nat} (hs : submitSum outs ≤ T)
    (hp : ∀ o ∈ outs, 0 < o.amount) : ∃ T', subSubmits outs T = .ok T' := by
  induction outs generalizing T with
  | nil => exact ⟨T, rfl⟩
  | cons o r ih =>
    have hpo := hp o (by simp)
    simp only [submitSum] at hs
    simp only [subSubmits]
    split
    · rename_i ho
      simp only [ho, if_true] at hs
      have : Amount.sub T o.amount = some (T - o.amount) := by
        simp only [Amount.sub]; split
        · omega
        · rfl
      simp only [this]
      exact ih (by omega) (fun x hx => hp x (by simp [hx]))
    · rename_i ho
      simp only [ho, if_false] at hs
      exact ih (by omega) (fun x hx => hp x (by simp [hx]))

theorem lockedBy_le_unspent {st : State} {t a : Id} (hn : aget st.fin t = none) :
    lockedBy st t a ≤ unspent st a := by
  rw [unspent_eq, live_finalize a st.utxo hn (s := 0)]
  exact Nat.le_add_left _ _

/-- **`Integer.Sub` always has its precondition.** For a not yet finalized, conserving withdrawal
    submission with positive output amounts, in a state satisfying the supply invariant, the loop
    `total = total.Sub(o.Amount)` never panics: "never negative" is a theorem, not an artefact of `Nat`. -/
theorem supply_sub_defined {st : State} {tx : Tx} (hs : SupplyEq st) (hn : aget st.fin tx.id = none)
    (hc : Conserving st tx) (ht : txType tx = .withdrawalSubmit) (hp : ∀ o ∈ tx.outputs, 0 < o.amount) :
    ∃ T', subSubmits tx.outputs (readTotal st tx.asset) = .ok T' := by
  apply subSubmits_defined _ hp
  have h1 := hc.2
  have h2 := lockedBy_le_unspent (a := tx.asset) hn
  have h3 := hs tx.asset
  have hm := minted_of_submit ht
  have hb := burnt_of_submit ht
  omega

/-! ### locks do not move value -/

theorem lockUTXO_unspent {st st' : State} {h i t : Id} {fork : Bool} (hh : lockUTXO st h i t fork = .ok st')
    (hn : aget st.fin t = none) (a : Id) : unspent st' a = unspent st a := by
  obtain ⟨u, _, hg, hl, rfl⟩ := lockUTXO_ok hh
  rw [unspent_eq, unspent_eq]
  refine sumIf_aset_same _ _ hg ?_
  -- the entry was live before (its lock holder, if any, is `t` or a pruned transaction) and stays live
  obtain ⟨ua, uty, uam, uks, lk⟩ := u
  simp only [contrib, live, hn]
  cases lk with
  | none => simp
  | some l =>
    have : aget st.fin l = none := by
      rcases hl l rfl with rfl | hf
      · exact hn
      · simpa [finalized] using hf
    simp [this]

/-- input locking (with or without fork) for a transaction that is not finalized keeps both the
    recorded totals and the unconsumed value of every asset -/
theorem lockUTXOs_supply {ins : List Input} {st st' : State} {t : Id} {fork : Bool}
    (h : lockUTXOs ins st t fork = .ok st') (hn : aget st.fin t = none) (hs : SupplyEq st) : SupplyEq st' := by
  induction ins generalizing st with
  | nil => cases h; exact hs
  | cons x r ih =>
    cases x with
    | utxo hh i =>
      unfold lockUTXOs at h
      split at h
      · rename_i s1 h1
        have e := lockUTXO_unspent h1 hn
        obtain ⟨_, _, _, _, rfl⟩ := lockUTXO_ok h1
        exact ih h hn fun a => (hs a).trans (e a).symm
      · cases h
    | deposit _ _ _ _ => cases h
    | mint _ _ => cases h
    | genesis => cases h

/-- the hypothesis of a snapshot write: each member that is finalized for the first time is conserving
    and has fresh outputs *in the state it meets* (the states are those the model itself produces) -/
def MembersConserve (cap : Id → Nat) : List Id → State → Snap → Prop
  | [], _, _ => True
  | t :: r, st, snap =>
    match aget st.txs t with
    | none => True
    | some tx =>
      (aget st.fin tx.id = none → Conserving st tx ∧ FreshOut st tx) ∧
      (∀ st', finalizeTransaction cap st tx snap.id snap.ts = .ok st' →
        MembersConserve cap r { st' with unique := aset st'.unique (t, snap.node) () } snap)

theorem finalizeAll_supply {cap : Id → Nat} {l : List Id} {st st' : State} {snap : Snap}
    (hs : SupplyEq st) (hm : MembersConserve cap l st snap) (h : finalizeAll cap l st snap = .ok st') :
    SupplyEq st' := by
  induction l generalizing st with
  | nil => cases h; exact hs
  | cons t r ih =>
    obtain ⟨tx, s1, htx, h1, h⟩ := finalizeAll_cons_ok h
    simp only [MembersConserve, htx] at hm
    have hs1 : SupplyEq s1 := by
      cases hn : aget st.fin tx.id with
      | some s => rw [finalizeTransaction_old hn] at h1; cases h1; exact hs
      | none => exact finalize_preserves_supply hs hn (hm.1 hn).2 (hm.1 hn).1 h1
    exact ih (st := { s1 with unique := aset s1.unique (t, snap.node) () }) hs1 (hm.2 s1 h1) h

/-- states reachable from the empty database (the genesis is itself a sequence of body writes and
    snapshot writes) by validations, input locks of transactions that are not finalized, body writes,
    and snapshot writes whose new members are conserving -/
inductive Reach (P : Params) : State → Prop
  | init : Reach P {}
  | validate {st} (tx : Tx) (fork : Bool) : Reach P st → Reach P (validate P st tx fork).2
  | lock {st} (tx : Tx) (fork : Bool) : Reach P st → aget st.fin tx.id = none → Reach P (LockInputs st tx fork).2
  | put {st} (tx : Tx) : Reach P st → Reach P (WriteTransaction st tx).2
  | snap {st} (s : Snap) (sg : Nat) : Reach P st → MembersConserve P.cap s.txs st s →
      Reach P (WriteSnapshot P.cap st s sg).2

/-- **Supply invariant.** In every reachable state, for every asset, the recorded total equals the sum of
    the outputs not consumed by any finalized transaction, and it does not exceed the capacity. -/
theorem supply_invariant (P : Params) {st : State} (h : Reach P st) :
    (∀ a, readTotal st a = unspent st a) ∧ (∀ a, readTotal st a ≤ P.cap a) := by
  induction h with
  | init => exact ⟨fun a => by simp [readTotal, unspent, sumIf, aget], fun a => by simp [readTotal, aget]⟩
  | @validate st tx fork _ ih =>
    refine ⟨?_, applyOp_capOK P st (.validate tx fork) ih.2⟩
    obtain ⟨g, e⟩ := validate_frame P st tx fork
    rw [e]; exact ih.1
  | @lock st tx fork _ hn ih =>
    refine ⟨?_, applyOp_capOK P st (.lock tx fork) ih.2⟩
    rcases atomic_snd st (lockInputsTxn st tx fork) with e | e
    · rw [LockInputs, e]; exact ih.1
    · rcases lockInputsTxn_cases e with ⟨d, m, x, e'⟩ | hl
      · rw [LockInputs, e']; exact ih.1
      · exact lockUTXOs_supply hl hn ih.1
  | @put st tx _ ih =>
    refine ⟨?_, applyOp_capOK P st (.put tx) ih.2⟩
    obtain ⟨x, e⟩ := WriteTransaction_frame st tx
    rw [e]; exact ih.1
  | @snap st s sg _ hm ih =>
    refine ⟨?_, applyOp_capOK P st (.snap s sg) ih.2⟩
    rcases WriteSnapshot_cases P.cap st s sg with ⟨_, e⟩ | ⟨s1, hfa, e⟩ <;> rw [e]
    · exact ih.1
    · exact fun a => finalizeAll_supply ih.1 hm hfa a

/-! ### the recorded total is the history's balance -/

/-- minted and burnt value of asset `a` over a sequence of finalization attempts (first successful
    finalizations only), and the state after them; a failed attempt is discarded -/
def account (cap : Id → Nat) (a : Id) : State → List (Tx × Id × Nat) → Nat × Nat × State
  | st, [] => (0, 0, st)
  | st, x :: r =>
    match finalizeTransaction cap st x.1 x.2.1 x.2.2 with
    | .error _ => account cap a st r
    | .ok s =>
      if aget st.fin x.1.id = none ∧ x.1.asset = a then
        (minted x.1 + (account cap a s r).1, burnt x.1 + (account cap a s r).2.1, (account cap a s r).2.2)
      else account cap a s r

/-- **Total = genesis + deposits + mints − withdrawal submissions**, over any sequence of finalizations
    (`minted` is the genesis allocation, deposit or mint amount; `burnt` the submit outputs). Needs no
    hypothesis: it is what `writeTotalInAsset` computes. -/
theorem supply_history (cap : Id → Nat) (a : Id) (l : List (Tx × Id × Nat)) (st : State) :
    readTotal (account cap a st l).2.2 a + (account cap a st l).2.1 = readTotal st a + (account cap a st l).1 := by
  induction l generalizing st with
  | nil => simp [account]
  | cons x r ih =>
    simp only [account]
    cases hfin : finalizeTransaction cap st x.1 x.2.1 x.2.2 with
    | error e => exact ih st
    | ok s =>
      have ihs := ih s
      simp only
      cases hn : aget st.fin x.1.id with
      | some v =>
        rw [finalizeTransaction_old hn] at hfin
        cases hfin
        simpa using ihs
      | none =>
        have hstep := finalize_total hn hfin a
        by_cases e : x.1.asset = a
        · subst e
          simp only [if_true] at hstep
          simp only [and_self, if_true]
          omega
        · have e' : ¬ a = x.1.asset := fun z => e z.symm
          simp only [e', if_false] at hstep
          simp only [e, and_false, if_false]
          omega

def capEx : Id → Nat := fun _ => 1000
def P0 : Params := { cap := capEx, xin := 1, claimFee := 10 }
def dep : Tx := ⟨10, 2, [.deposit 1 2 102 300], [⟨.script, 300, [501]⟩], [], true, true⟩
def wd : Tx := ⟨11, 2, [.utxo 10 0], [⟨.withdrawalSubmit, 100, []⟩, ⟨.script, 200, [502]⟩], [], true, true⟩

/-- a real history: deposit 300, finalize, lock and submit a withdrawal of 100 with 200 change, finalize -/
def s1 : State := (WriteTransaction (LockInputs {} dep false).2 dep).2
def s2 : State := (WriteSnapshot capEx s1 ⟨100, 1, 1, 11, 8, [10]⟩ 0).2
def s3 : State := (WriteTransaction (LockInputs s2 wd false).2 wd).2
def s4 : State := (WriteSnapshot capEx s3 ⟨101, 1, 1, 12, 9, [11]⟩ 0).2

example : readTotal s2 2 = 300 ∧ unspent s2 2 = 300 := by decide
example : readTotal s4 2 = 200 ∧ unspent s4 2 = 200 := by decide
example : Conserving s3 wd := by
  have hu : s3.utxo = [((10, 0), ⟨2, .script, 300, [501], some 11⟩)] := by decide
  constructor
  · intro a ha
    have : ¬ (2 = a) := fun e => ha (by rw [← e]; rfl)
    simp [lockedBy, hu, sumIf, this]
  · simp only [lockedBy, hu]; decide
example : FreshOut s3 wd := by
  have hu : s3.utxo = [((10, 0), ⟨2, .script, 300, [501], some 11⟩)] := by decide
  intro j
  simp [hu, aget, wd]
example : (account capEx 2 {} [(dep, 100, 11)]).1 = 300 := by decide

end Mixin.C17
