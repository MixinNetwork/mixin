import Mixin.Props.C34
import Mixin.Model.CustodianStore
/-!
# C34, continued — the stored custodian history and the kernel-level validator

`storage/badger_custodian.go` and `kernel/custodian.go` (model: `Mixin.CustodianStore`).
-/
namespace Mixin.C34
open Mixin.Proto Mixin.Custodian Mixin.CustodianStore

/-- every record's transaction is stored (`writeTransaction` runs before the record is set) -/
def StoreInv (s : Store) : Prop := ∀ e ∈ s.entries, (s.txs.lookup e.tx).isSome = true

/-- a transaction hash determines the transaction: if `hash` is already stored, it is stored with
    this very extra (the hash function assumption, stated as an explicit hypothesis) -/
def TxConsistent (s : Store) (hash extra : Bytes) : Prop := ∀ x, s.txs.lookup hash = some x → x = extra

theorem readLoop_congr (V : Verifier) {txs txs' : List (Bytes × Bytes)} (t : Nat) :
    ∀ (l : List Entry) (g : Bool) (found : Option Found) (cache : Option Cache),
      (∀ e ∈ l, txs'.lookup e.tx = txs.lookup e.tx) →
      readLoop V txs' t l g found cache = readLoop V txs t l g found cache
  | [], _, _, _, _ => rfl
  | e :: rest, g, found, cache, h => by
    have hp : parseItem V txs' cache e g = parseItem V txs cache e g := by
      unfold parseItem
      rw [h e List.mem_cons_self]
    unfold readLoop
    rw [hp]
    split_ifs
    · rfl
    · cases parseItem V txs cache e g with
      | none => rfl
      | some r => exact readLoop_congr V t rest false (some r.1) r.2 (fun x hx => h x (by simp [hx]))

theorem lookup_cons_consistent {s : Store} {hash extra : Bytes} (hinv : StoreInv s) (hc : TxConsistent s hash extra) :
    ∀ e ∈ s.entries, ((hash, extra) :: s.txs).lookup e.tx = s.txs.lookup e.tx := by
  intro e he
  obtain ⟨x, hx⟩ := Option.isSome_iff_exists.mp (hinv e he)
  rw [List.lookup_cons]
  cases heq : e.tx == hash with
  | false => rfl
  | true => rw [hx, hc x (eq_of_beq heq ▸ hx)]

/-- records after `t` are never looked at (mirrors `Mixin.C11.custodian_prefix_stable`) -/
theorem readLoop_insert (V : Verifier) (txs : List (Bytes × Bytes)) (t : Nat) (e : Entry) (he : t < e.ts) :
    ∀ (l : List Entry) (g : Bool) (found : Option Found) (cache : Option Cache),
      readLoop V txs t (insertKey e l) g found cache = readLoop V txs t l g found cache
  | [], g, found, cache => by simp [insertKey, readLoop, he]
  | x :: xs, g, found, cache => by
    by_cases hx : x.ts > t
    · -- whichever record comes first, it is after `t`
      simp only [insertKey, apply_ite (readLoop V txs t · g found cache), readLoop, if_pos he, if_pos hx, ite_self]
    · rw [insertKey, if_neg (by omega), if_neg (by omega), readLoop, readLoop, if_neg hx, if_neg hx]
      cases parseItem V txs cache x g with
      | none => rfl
      | some r => exact readLoop_insert V txs t e he xs false (some r.1) r.2

theorem write_entries (V : Verifier) (s : Store) (T : Nat) (hash extra : Bytes) (g : Bool) :
    (∃ o, writeCustodianNodes V s T hash extra g = (o, s.entries)) ∨
      writeCustodianNodes V s T hash extra g = (.written, insertKey ⟨T, hash⟩ s.entries) := by
  unfold writeCustodianNodes
  cases parseExtra V g extra with
  | none => exact Or.inl ⟨_, rfl⟩
  | some now =>
    dsimp only
    by_cases hn : now.nodes.length > maxStoredNodes
    · rw [if_pos hn]; exact Or.inl ⟨_, rfl⟩
    rw [if_neg hn]
    rcases readCustodian V s T none with _ | ⟨_ | prev, c⟩
    · exact Or.inl ⟨_, rfl⟩
    · exact Or.inr rfl
    dsimp only
    by_cases h1 : prev.ts > T
    · rw [if_pos h1]; exact Or.inl ⟨_, rfl⟩
    rw [if_neg h1]
    by_cases h2 : prev.ts = T
    · rw [if_pos h2]; exact Or.inl ⟨_, (apply_ite (·, s.entries) _ _ _).symm⟩
    · rw [if_neg h2]; exact Or.inr rfl

/-- shape of the store after `finalize`: untouched, or the transaction stored (and marked), or
    additionally one record set at `T` -/
theorem finalize_shape (V : Verifier) (s : Store) (hash extra : Bytes) (g : Bool) (T : Nat) :
    (finalize V s hash extra g T).2 = s ∨
    (∃ fin, (finalize V s hash extra g T).2 = ⟨s.entries, (hash, extra) :: s.txs, fin⟩) ∨
    (∃ fin, (finalize V s hash extra g T).1 = .written ∧
      (finalize V s hash extra g T).2 = ⟨insertKey ⟨T, hash⟩ s.entries, (hash, extra) :: s.txs, fin⟩) := by
  unfold finalize
  dsimp only
  split
  · exact Or.inr (Or.inl ⟨_, rfl⟩)
  · rcases write_entries V ⟨s.entries, (hash, extra) :: s.txs, hash :: s.finalized⟩ T hash extra g with ⟨o, hw⟩ | hw
    · rw [hw]
      cases o with
      | written => exact Or.inr (Or.inl ⟨_, rfl⟩)
      | unchanged => exact Or.inr (Or.inl ⟨_, rfl⟩)
      | error => exact Or.inl rfl
      | panic => exact Or.inl rfl
    · rw [hw]; exact Or.inr (Or.inr ⟨_, rfl, rfl⟩)

/-- Whatever a finalization does (write a record, return
    without one, fail), `ReadCustodian` answers for every earlier timestamp as before. -/
theorem custodian_history_append_only (V : Verifier) (s : Store) (hash extra : Bytes) (g : Bool) (T : Nat)
    (hinv : StoreInv s) (hc : TxConsistent s hash extra) (t : Nat) (ht : t < T) (cache : Option Cache) :
    readCustodian V (finalize V s hash extra g T).2 t cache = readCustodian V s t cache := by
  have hl := lookup_cons_consistent hinv hc
  rcases finalize_shape V s hash extra g T with h | ⟨fin, h⟩ | ⟨fin, _, h⟩
  · rw [h]
  · rw [h]; exact readLoop_congr V t s.entries true none cache hl
  · rw [h]
    exact (readLoop_insert V _ t ⟨T, hash⟩ ht s.entries true none cache).trans
      (readLoop_congr V t s.entries true none cache hl)

theorem mem_insertKey {e k : Entry} : ∀ {l : List Entry}, e ∈ insertKey k l → e = k ∨ e ∈ l
  | [], h => Or.inl (List.mem_singleton.mp h)
  | x :: xs, h => by
    rw [insertKey] at h
    split_ifs at h
    · exact List.mem_cons.mp h
    · exact (List.mem_cons.mp h).imp_right (List.mem_cons_of_mem x)
    · rcases List.mem_cons.mp h with h | h
      · exact Or.inr (h ▸ List.mem_cons_self)
      · exact (mem_insertKey h).imp_right (List.mem_cons_of_mem x)

/-- `finalize` keeps the store invariant (every record's transaction is stored) -/
theorem finalize_inv (V : Verifier) (s : Store) (hash extra : Bytes) (g : Bool) (T : Nat)
    (hinv : StoreInv s) (hc : TxConsistent s hash extra) : StoreInv (finalize V s hash extra g T).2 := by
  have hl := lookup_cons_consistent hinv hc
  have hold : ∀ e ∈ s.entries, (((hash, extra) :: s.txs).lookup e.tx).isSome = true := by
    intro e he; rw [hl e he]; exact hinv e he
  rcases finalize_shape V s hash extra g T with h | ⟨fin, h⟩ | ⟨fin, _, h⟩
  · rw [h]; exact hinv
  · rw [h]; exact hold
  · rw [h]
    intro e he
    rcases mem_insertKey he with rfl | he
    · simp [List.lookup]
    · exact hold e he

theorem write_outcome_congr (V : Verifier) {s s' : Store} (T : Nat) (hash extra : Bytes) (g : Bool)
    (h : readCustodian V s' T none = readCustodian V s T none) :
    (writeCustodianNodes V s' T hash extra g).1 = (writeCustodianNodes V s T hash extra g).1 := by
  unfold writeCustodianNodes
  rw [h]
  cases parseExtra V g extra with
  | none => rfl
  | some now => rcases readCustodian V s T none with _ | ⟨_ | prev, c⟩ <;> simp only [apply_ite Prod.fst]

/-- **No staleness guard in storage**: the
    outcome of `writeCustodianNodes` at `T` does not depend on records later than `T`, so an update
    dated before the newest record is written like any other. Timestamp monotonicity of consensus
    snapshots is enforced by the kernel (`validateConsensusTransactionReferences`), not here. -/
theorem write_ignores_later_records (V : Verifier) (s : Store) (T : Nat) (hash extra : Bytes) (g : Bool)
    (e : Entry) (he : T < e.ts) :
    (writeCustodianNodes V { s with entries := insertKey e s.entries } T hash extra g).1 =
      (writeCustodianNodes V s T hash extra g).1 :=
  write_outcome_congr V T hash extra g (readLoop_insert V s.txs T e he s.entries true none none)

/-- the guards at an occupied timestamp: same custodian → nothing is written, another custodian → panic -/
theorem write_same_timestamp (V : Verifier) (s : Store) (T : Nat) (hash extra : Bytes) (g : Bool) (now : Request)
    (prev : Found) (c : Option Cache) (hp : parseExtra V g extra = some now) (hn : now.nodes.length ≤ maxStoredNodes)
    (hr : readCustodian V s T none = some (some prev, c)) (hts : prev.ts = T) :
    writeCustodianNodes V s T hash extra g =
      (if now.custodian = prev.req.custodian then .unchanged else .panic, s.entries) := by
  unfold writeCustodianNodes
  rw [hp]
  simp only []
  rw [if_neg (by omega), hr]
  simp only []
  rw [if_neg (by omega), if_pos hts]
  exact (apply_ite (fun o => (o, s.entries)) _ _ _).symm

theorem storeReadOf_found {r : Option (Option Found × Option Cache)} {p : Prev} (h : storeReadOf r = .found p) :
    ∃ f c, r = some (some f, c) ∧ p = prevOf f := by
  rcases r with _ | ⟨_ | f, c⟩
  · cases h
  · cases h
  · cases h; exact ⟨f, c, rfl, rfl⟩

theorem parseItem_none {V : Verifier} {txs : List (Bytes × Bytes)} {e : Entry} {g : Bool} {f : Found}
    {c : Option Cache} (h : parseItem V txs none e g = some (f, c)) : c = none ∧ f.ts = e.ts := by
  unfold parseItem at h
  dsimp only at h
  split at h
  · cases h
  · cases h; exact ⟨rfl, rfl⟩

theorem readLoop_cons_none (V : Verifier) (txs : List (Bytes × Bytes)) {t : Nat} {e : Entry} (he : ¬ e.ts > t)
    (rest : List Entry) (g : Bool) (found : Option Found) :
    readLoop V txs t (e :: rest) g found none =
      (parseItem V txs none e g).bind fun r => readLoop V txs t rest false (some r.1) none := by
  rw [readLoop, if_neg he]
  cases hp : parseItem V txs none e g with
  | none => rfl
  | some r =>
    obtain ⟨f, c⟩ := r
    obtain ⟨rfl, -⟩ := parseItem_none hp
    rfl

theorem readLoop_mono (V : Verifier) (txs : List (Bytes × Bytes)) (T t : Nat) (hT : T ≤ t) :
    ∀ (l : List Entry) (g : Bool) (found : Option Found), (∀ x ∈ l, x.ts ≤ T) →
      readLoop V txs t l g found none = readLoop V txs T l g found none
  | [], _, _, _ => rfl
  | x :: xs, g, found, h => by
    rw [List.forall_mem_cons] at h
    rw [readLoop_cons_none V txs (by omega), readLoop_cons_none V txs (by omega)]
    cases parseItem V txs none x g with
    | none => rfl
    | some r => exact readLoop_mono V txs T t hT xs false (some r.1) h.2

theorem readLoop_none (V : Verifier) (txs : List (Bytes × Bytes)) (t : Nat) :
    ∀ (l : List Entry) (g : Bool) (found r : Option Found) (c : Option Cache),
      readLoop V txs t l g found none = some (r, c) →
      c = none ∧ (r = found ∨ ∃ f, r = some f ∧ ∃ e ∈ l, e.ts = f.ts)
  | [], _, _, _, _, h => by cases h; exact ⟨rfl, Or.inl rfl⟩
  | x :: xs, g, found, r, c, h => by
    by_cases hx : x.ts > t
    · rw [readLoop, if_pos hx] at h
      cases h; exact ⟨rfl, Or.inl rfl⟩
    · rw [readLoop_cons_none V txs hx] at h
      cases hp : parseItem V txs none x g with
      | none => rw [hp] at h; cases h
      | some q =>
        rw [hp] at h
        obtain ⟨hc, hr | ⟨f, hr, e, he, hts⟩⟩ := readLoop_none V txs t xs false (some q.1) r c h
        · exact ⟨hc, Or.inr ⟨q.1, hr, x, List.mem_cons_self, (parseItem_none hp).2.symm⟩⟩
        · exact ⟨hc, Or.inr ⟨f, hr, e, List.mem_cons_of_mem x he, hts⟩⟩

theorem readLoop_append (V : Verifier) (txs : List (Bytes × Bytes)) (t : Nat) (l' : List Entry) :
    ∀ (l : List Entry) (g : Bool) (found : Option Found), (∀ x ∈ l, x.ts ≤ t) →
      readLoop V txs t (l ++ l') g found none =
        (readLoop V txs t l g found none).bind fun r => readLoop V txs t l' (g && l.isEmpty) r.1 none
  | [], g, _, _ => by rw [List.nil_append, readLoop, List.isEmpty_nil, Bool.and_true]; rfl
  | x :: xs, g, found, h => by
    rw [List.forall_mem_cons] at h
    rw [List.cons_append, readLoop_cons_none V txs (by omega), readLoop_cons_none V txs (by omega)]
    cases parseItem V txs none x g with
    | none => rfl
    | some r =>
      rw [List.isEmpty_cons, Bool.and_false]
      exact readLoop_append V txs t l' xs false (some r.1) h.2

theorem insertKey_last (e : Entry) : ∀ l : List Entry, (∀ x ∈ l, x.ts < e.ts) → insertKey e l = l ++ [e]
  | [], _ => rfl
  | x :: xs, h => by
    rw [List.forall_mem_cons] at h
    rw [insertKey, if_neg (by omega), if_neg (by omega), insertKey_last e xs h.2]
    rfl

/-- Accepted ⇒ written ⇒ read. If the common validator accepts the
    transaction against the stored history at `T`, the transaction was not finalized before, every
    record is older than `T` (consensus timestamps increase strictly), and the update has at most
    fifty entries (the writer panics above — the validator does not check this), then finalization
    writes the record, the update is in canonical form, and every lookup at `t ≥ T` returns exactly
    the accepted request with this transaction and timestamp. -/
theorem accepted_update_is_stored (V : Verifier) (xin : Bytes) (tx : Tx) (s : Store) (T : Nat) (hash : Bytes)
    (hacc : validate V xin tx (storeReadOf (readCustodian V s T none)) = .accept)
    (hinv : StoreInv s) (hc : TxConsistent s hash tx.extra) (hnew : s.finalized.contains hash = false)
    (hlast : ∀ e ∈ s.entries, e.ts < T)
    (hmax : ∀ req, parseExtra V false tx.extra = some req → req.nodes.length ≤ maxStoredNodes) :
    ∃ req s', parseExtra V false tx.extra = some req ∧ Canonical V false tx.extra req ∧
      finalize V s hash tx.extra false T = (.written, s') ∧
      s'.entries = s.entries ++ [⟨T, hash⟩] ∧
      ∀ t, T ≤ t → readCustodian V s' t none = some (some ⟨req, hash, T⟩, none) := by
  obtain ⟨out, req, prev, -, hreq, hstore, -⟩ := validate_accept hacc
  -- the lookup at `T` found a record, older than `T`
  obtain ⟨f, c0, hr, -⟩ := storeReadOf_found hstore
  obtain ⟨rfl, hf | ⟨f', hf, e, he, hts⟩⟩ := readLoop_none V s.txs T s.entries true none (some f) c0 hr
  · cases hf
  cases hf
  have hfts : f.ts < T := hts ▸ hlast e he
  have hemp : s.entries.isEmpty = false := List.isEmpty_eq_false_iff.mpr (List.ne_nil_of_mem he)
  have hr2 : readLoop V ((hash, tx.extra) :: s.txs) T s.entries true none none = some (some f, none) :=
    (readLoop_congr V T s.entries true none none (lookup_cons_consistent hinv hc)).trans hr
  let s2 : Store := ⟨s.entries, (hash, tx.extra) :: s.txs, hash :: s.finalized⟩
  have hw : writeCustodianNodes V s2 T hash tx.extra false = (.written, insertKey ⟨T, hash⟩ s.entries) := by
    unfold writeCustodianNodes
    rw [hreq]
    dsimp only
    rw [if_neg (by have := hmax req hreq; omega), show readCustodian V s2 T none = _ from hr2]
    dsimp only
    rw [if_neg (by omega), if_neg (by omega)]
  refine ⟨req, ⟨insertKey ⟨T, hash⟩ s.entries, (hash, tx.extra) :: s.txs, hash :: s.finalized⟩, hreq,
    parse_sound hreq, ?_, insertKey_last ⟨T, hash⟩ s.entries hlast, fun t ht => ?_⟩
  · unfold finalize
    dsimp only
    rw [if_neg (by rw [hnew]; exact Bool.false_ne_true), show (⟨s.entries, _, _⟩ : Store) = s2 from rfl, hw]
  · -- every record is at or before `T ≤ t`; the old ones lead to `f`, the new one is parsed last
    have hle : ∀ x ∈ s.entries, x.ts ≤ T := fun x hx => Nat.le_of_lt (hlast x hx)
    have hp : parseItem V ((hash, tx.extra) :: s.txs) none ⟨T, hash⟩ false = some (⟨req, hash, T⟩, none) := by
      simp [parseItem, List.lookup, hreq]
    show readLoop V ((hash, tx.extra) :: s.txs) t (insertKey ⟨T, hash⟩ s.entries) true none none = _
    rw [insertKey_last ⟨T, hash⟩ s.entries hlast,
      readLoop_mono V _ T t ht _ true none (List.forall_mem_append.mpr ⟨hle, by simp⟩),
      readLoop_append V _ T _ s.entries true none hle, hr2, Option.bind_some, hemp, Bool.and_false,
      readLoop, if_neg (Nat.lt_irrefl T), hp]
    rfl


/-- every cache entry is the parse result of its key -/
def CacheOk (V : Verifier) (txs : List (Bytes × Bytes)) (c : Cache) : Prop :=
  ∀ k v, c.lookup k = some v → ∃ extra, txs.lookup k.1 = some extra ∧ parseExtra V k.2 extra = some v

theorem lookup_append_single {k k' : Bytes × Bool} {v v' : Request} (c : Cache)
    (h : (c ++ [(k', v')]).lookup k = some v) : c.lookup k = some v ∨ (k = k' ∧ v' = v) := by
  rw [List.lookup_append, Option.or_eq_some_iff, List.lookup_cons] at h
  refine h.imp_right fun ⟨_, h⟩ => ?_
  cases hk : k == k' with
  | false => rw [hk] at h; cases h
  | true => rw [hk] at h; exact ⟨eq_of_beq hk, Option.some.inj h⟩

/-- **The parse cache is transparent**: a lookup served through a cache whose entries are parse
    results returns the record (or error) of the uncached lookup and leaves such a cache
    (mirrors `Mixin.C11.custodian_cache_transparent` for the byte-level parser). -/
theorem read_cache_transparent (V : Verifier) (txs : List (Bytes × Bytes)) (t : Nat) :
    ∀ (l : List Entry) (g : Bool) (found : Option Found) (c : Cache), CacheOk V txs c →
      (readLoop V txs t l g found (some c)).map Prod.fst = (readLoop V txs t l g found none).map Prod.fst ∧
      ∀ r c', readLoop V txs t l g found (some c) = some (r, c') → ∃ c'', c' = some c'' ∧ CacheOk V txs c''
  | [], g, found, c, hc => ⟨rfl, fun r c' h => by cases h; exact ⟨c, rfl, hc⟩⟩
  | e :: rest, g, found, c, hc => by
    unfold readLoop
    by_cases hgt : e.ts > t
    · rw [if_pos hgt, if_pos hgt]
      exact ⟨rfl, fun r c' h => by cases h; exact ⟨c, rfl, hc⟩⟩
    · simp only [hgt, if_false]
      -- one item: cached and uncached parse agree, and the cache stays a table of parse results
      have key : (parseItem V txs (some c) e g = none ∧ parseItem V txs none e g = none) ∨
          ∃ f c1, parseItem V txs (some c) e g = some (f, some c1) ∧ parseItem V txs none e g = some (f, none) ∧
            CacheOk V txs c1 := by
        unfold parseItem
        simp only []
        cases hl : c.lookup (e.tx, g) with
        | some v =>
          obtain ⟨extra, h1, h2⟩ := hc _ _ hl
          right
          refine ⟨⟨v, e.tx, e.ts⟩, c, ?_, ?_, hc⟩ <;> simp [h1, h2]
        | none =>
          cases h1 : txs.lookup e.tx with
          | none => left; simp
          | some extra =>
            cases h2 : parseExtra V g extra with
            | none => left; simp [h2]
            | some cur =>
              right
              refine ⟨⟨cur, e.tx, e.ts⟩, c ++ [((e.tx, g), cur)], ?_, ?_, ?_⟩
              · simp [h2]
              · simp [h2]
              intro k v hk
              rcases lookup_append_single c hk with hk | ⟨rfl, rfl⟩
              · exact hc k v hk
              · exact ⟨extra, h1, h2⟩
      rcases key with ⟨h1, h2⟩ | ⟨f, c1, h1, h2, hok⟩
      · rw [h1, h2]; exact ⟨rfl, by intro r c' h; cases h⟩
      · rw [h1, h2]
        exact read_cache_transparent V txs t rest false (some f) c1 hok

/-! ## kernel/custodian.go -/

theorem checkNodes_sound (V : Verifier) (all : List KNode) : ∀ nodes : List Node, checkNodes V all nodes = true →
    ∀ n ∈ nodes, ∃ cn, nodeFilter all n.nodeId = some cn ∧ cn.payee = n.payeeAddr ∧
      V cn.signer (n.extra.take 161) n.signerSig = true
  | [], _, n, hn => by cases hn
  | m :: rest, h, n, hn => by
    unfold checkNodes at h
    cases hf : nodeFilter all m.nodeId with
    | none => rw [hf] at h; cases h
    | some cn =>
      rw [hf] at h
      simp only [ite_eq_iff_of_ne Bool.false_ne_true] at h
      obtain ⟨h1, h2, h⟩ := h
      rw [List.mem_cons] at hn
      rcases hn with rfl | hn
      · exact ⟨cn, hf, by simpa using h1, by simpa [Node.signed] using h2⟩
      · exact checkNodes_sound V all rest h n hn

/-- the kernel-level validator alone: gates, freshness of an unfinalized snapshot, canonical form,
    approval by the custodian current at the snapshot's time, and for every entry a kernel node
    with that node id, the same payee address and a valid signer signature over the first 161 bytes -/
theorem kernel_validate_sound {V : Verifier} {gate finalized : Bool} {ts gts thr : Nat} {extra : Bytes}
    {store : StoreRead} {all : List KNode}
    (h : kernelValidate V gate finalized ts gts thr extra store all = .accept) :
    gate = true ∧ (finalized = true ∨ gts ≤ ts + thr * 2) ∧
    ∃ req prev, parseExtra V false extra = some req ∧ Canonical V false extra req ∧
      store = .found prev ∧
      V (prev.custodian.take 32) (req.custodian ++ flattenExtras req.nodes) req.signature = true ∧
      ∀ n ∈ req.nodes, ∃ cn, nodeFilter all n.nodeId = some cn ∧ cn.payee = n.payeeAddr ∧
        V cn.signer (n.extra.take 161) n.signerSig = true := by
  simp only [kernelValidate, reject_else, Bool.not_eq_true', Bool.not_eq_false] at h
  obtain ⟨hg, hst, h⟩ := h
  split at h
  · cases h
  rename_i req hreq
  rw [reject_else] at h
  split at h
  · cases h.2
  · cases h.2
  rename_i prev
  simp only [reject_else, accept_else, Bool.not_eq_false, reduceCtorEq, imp_false, Decidable.not_not] at h
  have hcan := parse_sound hreq
  rw [hcan.signed_part] at h
  refine ⟨hg, ?_, req, prev, hreq, hcan, rfl, h.2.1, checkNodes_sound V all _ h.2.2⟩
  cases finalized with
  | true => exact Or.inl rfl
  | false => exact Or.inr (Nat.not_lt.mp fun hlt => hst ⟨rfl, hlt⟩)

/-- A custodian update snapshot passes both the transaction validation (`common`) and the kernel's
    snapshot validation against the same lookup `ReadCustodian(ts)`. Then the gates passed (election,
    epoch, hour window: `gate`, C29), and what `custodian_accept_sound` says of the request holds (its
    version, asset and output-shape conjuncts are not repeated): canonical, sorted, distinct keys,
    payee and custodian signatures, approval by the current custodian, price paid, same custodian ⇒
    same node set — and in addition every entry names a kernel node with that payee and carries that
    node's signer signature. -/
theorem accepted_custodian_update_sound {V : Verifier} {xin : Bytes} {tx : Tx} {store : StoreRead}
    {gate finalized : Bool} {ts gts thr : Nat} {all : List KNode}
    (hc : validate V xin tx store = .accept)
    (hk : kernelValidate V gate finalized ts gts thr tx.extra store all = .accept) :
    gate = true ∧
    ∃ req prev out,
      parseExtra V false tx.extra = some req ∧ Canonical V false tx.extra req ∧
      StrictSorted req.nodes ∧ SpendKeysDistinct req.nodes ∧ FullySigned V req.nodes ∧
      nodesMinimumCount ≤ req.nodes.length ∧
      store = .found prev ∧ tx.outputs = [out] ∧
      V (prev.custodian.take 32) (req.custodian ++ flattenExtras req.nodes) req.signature = true ∧
      price prev.nodes req.nodes ≤ out.amount ∧
      (req.custodian = prev.custodian →
        (∀ kv ∈ prev.nodes, kv.1 ∈ req.nodes.map Node.custAddr) ∧ prev.nodes.length = req.nodes.length) ∧
      ∀ n ∈ req.nodes, ∃ cn, nodeFilter all n.nodeId = some cn ∧ cn.payee = n.payeeAddr ∧
        V cn.signer (n.extra.take 161) n.signerSig = true := by
  obtain ⟨req, prev, out, hreq, hcan, hs, hd, hsig, hn, hst, hout, _, _, _, _, _, happ, hprice, hsame⟩ :=
    custodian_accept_sound hc
  obtain ⟨hg, _, req', prev', hreq', _, hst', _, hnodes⟩ := kernel_validate_sound hk
  rw [hreq] at hreq'
  simp only [Option.some.injEq] at hreq'
  subst hreq'
  exact ⟨hg, req, prev, out, hreq, hcan, hs, hd, hsig, hn, hst, hout, happ, hprice, hsame, hnodes⟩

example : insertKey ⟨5, [1]⟩ [⟨3, [2]⟩, ⟨7, [3]⟩] = [⟨3, [2]⟩, ⟨5, [1]⟩, ⟨7, [3]⟩] := by decide
example : readCustodian (fun _ _ _ => true) ⟨[⟨3, [2]⟩], [], []⟩ 2 none = some (none, none) := rfl
example : readCustodian (fun _ _ _ => true) ⟨[⟨3, [2]⟩], [], []⟩ 3 none = none := rfl
example : (finalize (fun _ _ _ => true) Store.empty [1] [] true 9).1 = .panic := by decide
example : nodeFilter [⟨[1], [2], [3]⟩, ⟨[1], [4], [5]⟩] [1] = some ⟨[1], [4], [5]⟩ := by decide
example : kernelValidate (fun _ _ _ => true) false true 0 0 0 [] .none [] = .reject := by decide
example : StoreInv Store.empty := by intro e he; cases he

end Mixin.C34
