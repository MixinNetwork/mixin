import Mixin.Proofs.Locks
import Mixin.Facts.ExpectedC04
/-!
# C04 — a one-time output key is bound to at most one transaction

`GHOST[k]` is the transaction an output key is bound to.  The theorems quantify over every
database and every list of atomic calls (admissions with or without the fork flag,
`WriteTransaction`, `WriteSnapshot`), i.e. every interleaving of concurrent callers.
-/
namespace Mixin.C04
open Mixin.KV Mixin.Locks

/-- the output types for the examples, a numeric copy of the table the driver is configured with
    (`Mixin.Driver.Locks.outKinds`, built from the regenerated constants; its shape is the fact
    `ExpectedC04.unspentOutputs_table`): script 0, node pledge 163 / accept 164 / remove 166 /
    cancel 170, withdrawal claim 169, custodian update 177 are materialised; withdrawal submit 161
    and custodian slash 178 are not -/
def kinds0 : OutKinds :=
  { materialized := [0, 163, 170, 164, 166, 169, 177], skipped := [161, 178], sideTypes := [163, 170, 164, 166, 177, 169] }

def cfg0 : Cfg := { exc := [101, 102, 103], nodes := [1, 2], kinds := kinds0 }

/-- key 7 is bound to transaction 5, whose body is stored -/
def sample : Store := { ghost := [(7, 5)], tx := [(5, ()), (6, ())] }

def okAnd (r : Res) (p : Store → Bool) : Bool :=
  match r with
  | .ok s' => p s'
  | _ => false

/-- `ghost_binding_immutable`: once `GHOST[k] = v`, it is `v` after any further list of calls —
    fork flag, exceptions, finalizations and prunes included. -/
theorem ghost_binding_immutable (c : Cfg) (s : Store) (ops : List Op) (k v : Nat)
    (h : s.ghost.get k = some v) : (run c s ops).ghost.get k = some v :=
  run_invariant c (fun _ _ _ _ he h => (exec_frame he).ghost k v h) h

-- (`+kernel` here and below: evaluating the instance in the elaborator first is the slow part)
example : (run cfg0 sample [.lockGhostKeys [7] 101 true, .lockGhostKeys [7, 8] 6 true,
    .snapshot 1 [{ id := 6, ins := [.genesis], outs := [⟨164, [7]⟩] }] .ok]).ghost.get 7 = some 5 := by decide +kernel

/-- `ghost_foreign_rejected`: a key list that contains a key bound to another transaction is
    refused and nothing changes — unless the call carries the fork flag *and* the requester is one
    of the hard-coded exceptions. -/
theorem ghost_foreign_rejected (c : Cfg) (s : Store) (keys : List Nat) (k t t' : Nat) (fork : Bool)
    (hk : k ∈ keys) (hg : s.ghost.get k = some t) (hne : t ≠ t') (hx : ¬ (fork = true ∧ t' ∈ c.exc)) :
    exec c s (.lockGhostKeys keys t' fork) = .err ∧ step c s (.lockGhostKeys keys t' fork) = s := by
  have h : exec c s (.lockGhostKeys keys t' fork) = .err := by
    simp only [exec, lockGhostKeys, lockGhostLoop_foreign hk hg hne hx]
  exact ⟨h, step_err h⟩

example : exec cfg0 sample (.lockGhostKeys [8, 7] 6 true) = .err := by decide +kernel
example : exec cfg0 sample (.lockGhostKeys [7] 101 false) = .err := by decide +kernel

/-- the exceptions: with the fork flag an exception transaction is accepted against a bound
    key, and the database — in particular the binding — is unchanged. -/
theorem ghost_exception_accepted_unchanged (c : Cfg) (s : Store) (k t t' : Nat)
    (hg : s.ghost.get k = some t) (h0 : t ≠ 0) (hx : t' ∈ c.exc) :
    exec c s (.lockGhostKeys [k] t' true) = .ok s := by
  simp [exec, lockGhostKeys, lockGhostLoop, lockGhostKey, hg, h0, hx]

example : exec cfg0 sample (.lockGhostKeys [7] 102 true) = .ok sample := by decide +kernel

/-- the storage-level duplicate filter: a key list with a repeated key is refused -/
theorem ghost_duplicate_rejected (c : Cfg) (s : Store) (pre mid post : List Nat) (k t : Nat) (fork : Bool) :
    exec c s (.lockGhostKeys (pre ++ k :: mid ++ k :: post) t fork) = .err := by
  simp only [exec, lockGhostKeys]
  split
  · rfl
  · next s' h =>
    have nd := (lockGhostLoop_ok h).2.2.1
    exact absurd rfl ((List.nodup_append.mp nd).2.2 k (by simp) k List.mem_cons_self)

example : exec cfg0 {} (.lockGhostKeys [1, 2, 1] 6 false) = .err := by decide +kernel

/-- `finalize_never_overwrites`: finalizing (`WriteSnapshot`) a transaction that is not yet
    finalized, is not an exception, and has a materialised output **of any type** (script, node
    pledge / accept / cancel / remove, custodian update, withdrawal claim — everything
    `UnspentOutputs` yields) with a key bound to another transaction does not succeed, whatever
    the side effects of the output types do; with `ghost_binding_immutable` the binding stays
    whatever the outcome. -/
theorem finalize_never_overwrites (c : Cfg) (s : Store) (node : Nat) (t' : Tx) (side : Side) (o : OutSpec) (k t : Nat)
    (ho : o ∈ t'.outs) (hmat : o.typ ∉ c.kinds.skipped) (hk : k ∈ o.keys)
    (hg : s.ghost.get k = some t) (hne : t ≠ t'.id)
    (hx : t'.id ∉ c.exc) (hfin : s.fin.get t'.id = none) :
    (∀ s', exec c s (.snapshot node [t'] side) ≠ .ok s') ∧ step c s (.snapshot node [t'] side) = s := by
  have h : ∀ s', exec c s (.snapshot node [t'] side) ≠ .ok s' := fun _ he =>
    hx ((exec_snapshot_bound he hfin o ho hmat k hk).exception ((exec_frame he).ghost k t hg) hne).2
  exact ⟨h, step_not_ok h⟩

example : exec cfg0 sample (.snapshot 1 [{ id := 6, ins := [.genesis], outs := [⟨0, [8]⟩, ⟨0, [7]⟩] }] .ok) = .err := by decide +kernel
-- the same for a node-accept, a node-remove and a custodian-update output
example : exec cfg0 sample (.snapshot 1 [{ id := 6, ins := [.genesis], outs := [⟨164, [7]⟩] }] .ok) = .err := by decide +kernel
example : exec cfg0 sample (.snapshot 1 [{ id := 6, ins := [.genesis], outs := [⟨166, [8, 7]⟩] }] .ok) = .err := by decide +kernel
example : exec cfg0 sample (.snapshot 1 [{ id := 6, ins := [.genesis], outs := [⟨177, [7]⟩] }] .panic) = .err := by decide +kernel
-- and the same transaction is finalized when its keys are free or its own
example : okAnd (exec cfg0 sample (.snapshot 1 [{ id := 5, ins := [.genesis], outs := [⟨0, [8]⟩, ⟨164, [7]⟩] }] .ok))
    (fun s' => s'.ghost.get 7 == some 5 && s'.ghost.get 8 == some 5 && s'.utxo.get (5, 1) == some 0) = true := by
  decide +kernel

/-- `finalize_binds_all_keys`: after a successful finalization of a not yet finalized
    transaction (not one of the exceptions), every key of every materialised output — of every
    output type — is bound to that transaction. -/
theorem finalize_binds_all_keys (c : Cfg) (s s' : Store) (node : Nat) (t : Tx) (side : Side) (o : OutSpec) (k : Nat)
    (hok : exec c s (.snapshot node [t] side) = .ok s')
    (hfin : s.fin.get t.id = none) (hx : t.id ∉ c.exc)
    (ho : o ∈ t.outs) (hmat : o.typ ∉ c.kinds.skipped) (hk : k ∈ o.keys) :
    s'.ghost.get k = some t.id :=
  (exec_snapshot_bound hok hfin o ho hmat k hk).get (fun h => hx h.2)

def txAllTypes : Tx :=
  { id := 6, ins := [.genesis], outs := [⟨163, [1]⟩, ⟨161, [2]⟩, ⟨166, [3, 4]⟩, ⟨177, [5]⟩, ⟨169, [6]⟩] }

example : okAnd (exec cfg0 sample (.snapshot 1 [txAllTypes] .ok))
    (fun s' => [1, 3, 4, 5, 6].all (fun k => s'.ghost.get k == some 6) && s'.ghost.get 2 == none
      && s'.utxo.get (6, 2) == some 0 && s'.utxo.get (6, 1) == none) = true := by decide +kernel

/-- `in_tx_duplicate_rejected`: if some key occurs twice among the outputs of a transaction —
    inside one output or across outputs — `validateOutputs` rejects it, whatever the database,
    the amounts, the fork flag or the claimed hash, and nothing is written. -/
theorem in_tx_duplicate_rejected (exc : List Nat) (oc : OutCfg) (s : Store) (outs : List Out)
    (tx inputAmount : Nat) (fork : Bool) (hdup : ¬ (outs.flatMap (·.keys)).Nodup) :
    validateOutputs exc oc s outs tx inputAmount fork = .err := by
  unfold validateOutputs
  split
  · rfl
  · next seen h => exact absurd (scanOuts_keys_nodup h).2 hdup

def oc0 : OutCfg := { limit := 256, kernelTypes := [161, 169, 163, 170, 164], keyValid := fun k => k < 900 }
def out0 (keys : List Nat) : Out :=
  { typ := 0, amount := 1, keys := keys, scriptOk := true, scriptEmpty := false, maskHas := true, maskValid := true, withdrawal := false }

example : validateOutputs [101] oc0 {} [out0 [1, 2], out0 [3, 1]] 6 2 false = .err := by decide +kernel
example : validateOutputs [101] oc0 {} [out0 [1, 1]] 6 1 true = .err := by decide +kernel
-- the same outputs without the repetition are accepted and bind their keys
example : okAnd (validateOutputs [101] oc0 {} [out0 [1, 2], out0 [3]] 6 2 false)
    (fun s' => s'.ghost.get 1 == some 6 && s'.ghost.get 3 == some 6) = true := by decide +kernel

/-- `validateOutputs` reaches the store only through `LockGhostKeys`, with the keys of the outputs:
    an output key bound to another transaction makes it fail as in `ghost_foreign_rejected`. -/
theorem validateOutputs_foreign_rejected (exc : List Nat) (oc : OutCfg) (s : Store) (outs : List Out)
    (k t t' inputAmount : Nat) (fork : Bool)
    (hk : k ∈ outs.flatMap (·.keys)) (hg : s.ghost.get k = some t) (hne : t ≠ t')
    (hx : ¬ (fork = true ∧ t' ∈ exc)) :
    validateOutputs exc oc s outs t' inputAmount fork = .err := by
  unfold validateOutputs
  split
  · rfl
  · next seen h =>
    split
    · rfl
    · rw [← (scanOuts_keys_nodup h).1] at hk
      simp only [lockGhostKeys, lockGhostLoop_foreign hk hg hne hx]

end Mixin.C04
