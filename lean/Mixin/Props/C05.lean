import Mixin.Props.C01
import Mixin.Facts.ExpectedC05
/-!
  C05 — validating any decodable transaction never crashes the node.

  The model (lean/Mixin/Model/Validate.lean) returns `panic site` at every Go statement of the
  call tree of `VersionedTransaction.Validate` that can panic: the partial `Integer` operations
  (`Add` in validateInputs / verifyDepositData, `Count` in GetExtraLimit, `Div` in
  validateNodeCancel), `sigs[index]`, dereferences of store results (`custodian`, `lastPledge`,
  `accept`, `submit.Outputs[0]`, `pit.Outputs[i]`, `lastPledge.Inputs[0]`), the nil `pledging` in
  the error path of the node scan, `NodeTransactionExtraAsSigner`, `KeyMultPubPriv` reached through
  `ViewGhostOutputKey` (invalid point / non-canonical scalar taken from the attacker's Extra), the
  `len(filter) != len(prev.Nodes)` guard, and the `config.Debug` re-decode in `PayloadMarshal`.

  On the unrepaired tree the statement was false at two sites (both confirmed through the harness
  and repaired by `fix:` commits, see known_findings.json): `sigs[index]` in validateUTXO and
  `Integer.Count` in GetExtraLimit. The model follows the repaired code.
-/
namespace Mixin.C05
open Mixin.Validate Mixin.C01

/-- what decoding guarantees and the proof needs: the payload (a sub-encoding of the canonical
    bytes that were at most TransactionMaximumSize long) fits the re-decode limit -/
structure Decodable (tx : Tx) : Prop where
  payload : tx.payloadSize ≤ txMaxSize

theorem dispatch_np {L : Ledger} {O tx fork f i s} (hI : LedgerInv L)
    (hs : structural tx = .ok ())
    (hin : validateInputs L O tx (txType tx) fork = .ok (f, i)) :
    dispatch L O tx (txType tx) f ≠ .error (.panic s) := by
  obtain ⟨_, _, hout, _⟩ := structural_ok hs
  exact dispatch_cases (P := (· ≠ .error (.panic s)))
    (fun _ => validateScript_np)
    (fun h => validateMint_np h)
    (fun h => validateDeposit_np h hI.custodian)
    (fun _ => validateWithdrawalSubmit_np hout)
    (fun _ => validateWithdrawalClaim_np hout hI.custodian hI.txOutputs)
    (fun h => validateNodePledge_np hin h)
    (fun h => validateNodeCancel_np hI hin h)
    (fun _ => validateNodeAccept_np hI)
    (fun h => validateNodeRemove_np hI hin h)
    (fun _ => validateCustodianUpdateNodes_np hI)
    rej_ne_panic

/-- For every decodable transaction, every ledger view satisfying the listed
    invariants of reachable states, every oracle and both fork modes, validation returns accept or
    reject: no panic site is reached. -/
theorem validate_total {L : Ledger} {O : Oracle} {tx : Tx} {fork : Bool}
    (hD : Decodable tx) (hI : LedgerInv L) : ∀ site, validate L O tx fork ≠ .panic site := by
  intro site hp
  refine bind_np (structural_np hD.payload) (fun _ hs => bind_np sigPresence_np fun _ _ =>
    bind_np validateReferences_np fun _ _ => bind_np (validateInputs_np hI.utxoPos) fun r hin =>
    guard_np <| bind_np validateOutputs_np fun _ _ => bind_np (dispatch_np hI hs hin) fun _ _ =>
    pure_ne_panic) (panic_iff.1 hp)

/-- Side observation (not one of C01/C02/C05): under the ledger invariants a node-cancel typed
    transaction is never accepted. Its input would have to be the pledge output (type 0xa3), for
    which validateUTXO collects no signature, and `len(keySigs) < len(Inputs)` then rejects; an
    input that does collect signatures is an ordinary output, whose creating transaction is not
    the pledge. validateNodeCancel (and its KeyMultPubPriv panic on the attacker-chosen scalar in
    Extra[64:96]) is therefore unreachable with an accepting outcome. -/
theorem cancel_never_accepted {L : Ledger} {O tx fork} (hI : LedgerInv L) (ht : txType tx = ttNodeCancel) :
    ∀ i o, validate L O tx fork ≠ .accept i o := by
  intro i o hacc
  obtain ⟨_, _, f, hin, _, _, hd⟩ := validateM_ok (accept_iff.1 hacc)
  rw [ht, dispatch_cancel, validateNodeCancel_rej hI hin ht] at hd
  exact rej_ne_ok hd

/-! ### The hypotheses are satisfiable and needed -/
namespace Example

def thr (n : Nat) : List Nat := [255, 254, n]

def fundOut : Output := { type := 0, amount := 20, keys := [101, 102], mask := 110, script := thr 2, withdrawal := false }
def pledgeOut : Output := { type := otNodePledge, amount := 20, keys := [], mask := 0, script := [], withdrawal := false }

/-- a ledger with a funding transaction, its unspent output, a pledging node with its stored
    pledge transaction, and a custodian with two distinct nodes -/
def ledger : Ledger :=
  { utxos := [{ hash := 10, index := 0, type := 0, asset := 1, amount := 20, keys := [101, 102], mask := 110,
                script := thr 2, lock := 0 },
              { hash := 12, index := 0, type := otNodePledge, asset := 1, amount := 20, keys := [], mask := 0,
                script := [], lock := 0 }],
    txs := [{ hash := 10, payloadHash := 10, finalized := true, txType := 0, extraId := 2, signerAddr := 30,
              signerSpend := 31, inputs := [(5, 0)], outputs := [fundOut] },
            { hash := 12, payloadHash := 12, finalized := true, txType := ttNodePledge, extraId := 40, signerAddr := 41,
              signerSpend := 42, inputs := [(11, 0)], outputs := [pledgeOut] }],
    nodes := [{ signerAddr := 41, signerSpend := 42, payeeSpend := 43, state := stPledging, tx := 12 },
              { signerAddr := 51, signerSpend := 52, payeeSpend := 53, state := stAccepted, tx := 13 }],
    custodian := some { key := 150, addr := 50, nodes := [(60, 61), (62, 63)] } }

theorem ledger_inv : LedgerInv ledger where
  utxoPos := by decide
  utxoTx := by decide
  txOutputs := by decide
  nodeStates := by decide
  pledgingTx := by decide
  custodian := by decide
  custodianNodup := by
    rintro c ⟨⟩
    decide

def oracle : Oracle :=
  { checkKey := fun k => 100 ≤ k && k < 200, verify := fun k s => s == k + 1000, aggVerify := fun _ _ _ => false,
    claimSig := false, updParse := none, updSig := false, scalarOk := false, ghostEq := false }

def out (amount key mask : Nat) : Output :=
  { type := 0, amount := amount, keys := [key], mask := mask, script := thr 1, withdrawal := false }

def spend : Tx :=
  { version := 5, asset := 1, references := [], extraLen := 0, extraId := 2, extra64 := 3, extraSpend := 0,
    inputs := [{ hash := 10, index := 0, genesis := false, deposit := none, mint := none }],
    outputs := [out 20 120 130], sigs := some [[(0, 1101), (1, 1102)]], agg := none, hash := 9,
    payloadSize := 200, cap := 1000 }

example : Decodable spend := ⟨by decide⟩
example : validate ledger oracle spend false = .accept 20 20 := by decide +kernel

/- the first repaired crasher: a node-remove typed transaction spending the ordinary output with
    no signature maps is rejected (the unrepaired code indexed `sigs[0]` of an empty list) -/
example : validate ledger oracle
    { spend with outputs := [{ out 20 120 130 with type := otNodeRemove }], sigs := none } false = .reject := by
  decide +kernel

/- the second repaired crasher: a storage-style output of amount 2^77 takes the capacity branch
    of GetExtraLimit instead of `Count` -/
example : getExtraLimit { spend with outputs := [{ out (2 ^ 77) 120 130 with script := storageScript }] }
    = .ok extraCapacity := by rfl

/- two of the ledger hypotheses are shown necessary, `utxoPos` (by this stored output of amount 0) and
    `custodian`: without them the model (and the code) panics -/
def zeroUtxo : Utxo :=
  { hash := 10, index := 0, type := 0, asset := 1, amount := 0, keys := [101, 102], mask := 110, script := thr 2, lock := 0 }

example : validate { ledger with utxos := [zeroUtxo] } oracle spend false = .panic .validateInputs := by decide +kernel

def depositTx : Tx :=
  { spend with
    inputs := [{ hash := 0, index := 0, genesis := false, mint := none,
                 deposit := some { chain := 8, assetKeyOk := true, assetKey := 60, txOk := true, uniq := 70, amount := 40 } }],
    outputs := [out 40 123 133], sigs := some [[(0, 1150)]] }

example : validate ledger oracle depositTx false = .accept 40 40 := by decide +kernel
example : validate { ledger with custodian := none } oracle depositTx false = .panic .validateDeposit := by decide +kernel

end Example
end Mixin.C05
