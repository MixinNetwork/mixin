import Mixin.Model.DepositKey
import Mixin.Proofs.Locks
import Mixin.Facts.ExpectedC03
/-!
# C03 — an output, deposit or mint slot is locked by at most one transaction

The database is `Mixin.KV.Store`; every storage call is one atomic `exec c s op : Res`, and
`step`/`run` apply any list of calls — that is every interleaving of concurrent callers,
because each call holds the store mutex for one Badger update (pinned by the regenerated
facts in `Mixin.Facts.ExpectedC03`).  A slot has one lock field, so "at most one holder" is
structural; the theorems say who may change it and what else changes in the same write.
-/
namespace Mixin.C03
open Mixin.KV Mixin.Locks

/-- a sample state: transaction 9 (finalized) created outputs (9,0) and (9,1); (9,0) is held by
    the pending transaction 5, (9,1) by the finalized transaction 6; deposit 3 is held by 5,
    mint batch 7 by (5, amount 2) -/
def sample : Store :=
  { utxo := [((9, 0), 5), ((9, 1), 6), ((9, 2), 0)], deposit := [(3, 5)], mint := [(7, (5, 2))],
    tx := [(5, ()), (6, ()), (9, ())], fin := [(9, ()), (6, ())] }

def okAnd (r : Res) (p : Store → Bool) : Bool :=
  match r with
  | .ok s' => p s'
  | _ => false

def kinds0 : OutKinds :=
  { materialized := [0, 163, 170, 164, 166, 169, 177], skipped := [161, 178], sideTypes := [163, 170, 164, 166, 177, 169] }

def cfg0 : Cfg := { exc := [101, 102, 103], nodes := [1, 2], kinds := kinds0 }

/-- `multi_input_atomic`: whatever the inputs, a `LockUTXOs` (or any other call) that does not
    return ok leaves the database exactly as it was — there is no partially applied lock list. -/
theorem multi_input_atomic (c : Cfg) (s : Store) (op : Op) (h : ∀ s', exec c s op ≠ .ok s') :
    step c s op = s :=
  step_not_ok h

-- second input held by the finalized 6: the first input is not taken over either
-- (`+kernel` here and below: evaluating the instance in the elaborator first is the slow part)
example : step cfg0 sample (.lockUTXOs [(9, 0), (9, 1)] 8 true) = sample := by decide +kernel

/-- `lock_nonfork_excl` (outputs): a non-fork request by `tx` that lists a slot held by another
    transaction `cur` fails, and the database is unchanged. -/
theorem lock_nonfork_excl_utxo (c : Cfg) (s : Store) (ins : List (Nat × Nat)) (x : Nat × Nat) (tx cur : Nat)
    (hx : x ∈ ins) (hcur : s.utxo.get x = some cur) (h0 : cur ≠ 0) (hne : cur ≠ tx) :
    (∀ s', exec c s (.lockUTXOs ins tx false) ≠ .ok s') ∧ step c s (.lockUTXOs ins tx false) = s := by
  have h := lockUTXOs_blocked (fork := false) hx hcur h0 hne (Or.inl rfl)
  exact ⟨h, step_not_ok h⟩

example : exec cfg0 sample (.lockUTXOs [(9, 2), (9, 0)] 8 false) = .err := by decide +kernel

/-- `lock_nonfork_excl` (deposit) -/
theorem lock_nonfork_excl_deposit (c : Cfg) (s : Store) (d tx cur : Nat)
    (hcur : s.deposit.get d = some cur) (hne : cur ≠ tx) :
    exec c s (.lockDeposit d tx false) = .err ∧ step c s (.lockDeposit d tx false) = s := by
  have h : exec c s (.lockDeposit d tx false) = .err := lockDeposit_blocked hcur hne (Or.inl rfl)
  exact ⟨h, step_err h⟩

example : exec cfg0 sample (.lockDeposit 3 8 false) = .err := by decide +kernel

/-- `lock_nonfork_excl` (mint): the batch is held by another transaction, or by the same
    transaction for another amount -/
theorem lock_nonfork_excl_mint (c : Cfg) (s : Store) (b a tx : Nat) (cur : Nat × Nat)
    (hcur : s.mint.get b = some cur) (hne : cur ≠ (tx, a)) :
    exec c s (.lockMint b a tx false) = .err ∧ step c s (.lockMint b a tx false) = s := by
  have h : exec c s (.lockMint b a tx false) = .err := lockMint_blocked hcur hne (Or.inl rfl)
  exact ⟨h, step_err h⟩

example : exec cfg0 sample (.lockMint 7 2 8 false) = .err := by decide +kernel
example : exec cfg0 sample (.lockMint 7 1 5 false) = .err := by decide +kernel

/-- `lock_idem` (outputs): when every listed slot is already held by `tx` the call succeeds and
    the database is *equal* to the one before (fork or not). -/
theorem lock_idem_utxo (c : Cfg) (s : Store) (ins : List (Nat × Nat)) (tx : Nat) (fork : Bool)
    (h : ∀ x ∈ ins, x.2 ≤ maxIndex ∧ s.utxo.get x = some tx) :
    exec c s (.lockUTXOs ins tx fork) = .ok s := by
  simp only [exec]
  induction ins with
  | nil => rfl
  | cons x xs ih =>
    have hx := h x List.mem_cons_self
    have h1 : lockUTXO s x tx fork = .ok s := by
      unfold lockUTXO
      have : ¬ x.2 > maxIndex := Nat.not_lt.mpr hx.1
      simp [this, hx.2, Map.set_same _ _ _ hx.2]
    unfold lockUTXOs
    rw [h1]
    exact ih (fun y hy => h y (List.mem_cons_of_mem _ hy))

example : exec cfg0 sample (.lockUTXOs [(9, 0), (9, 0)] 5 false) = .ok sample := by decide +kernel

theorem lock_idem_deposit (c : Cfg) (s : Store) (d tx : Nat) (fork : Bool)
    (h : s.deposit.get d = some tx) : exec c s (.lockDeposit d tx fork) = .ok s := by
  simp [exec, lockDeposit, h]

theorem lock_idem_mint (c : Cfg) (s : Store) (b a tx : Nat) (fork : Bool)
    (h : s.mint.get b = some (tx, a)) : exec c s (.lockMint b a tx fork) = .ok s := by
  simp [exec, lockMint, h]

example : exec cfg0 sample (.lockMint 7 2 5 true) = .ok sample := by decide +kernel

/-- `takeover_not_finalized` (outputs): whatever the fork flag, a request that lists a slot held
    by a transaction with a FINALIZATION record fails and changes nothing. -/
theorem takeover_not_finalized_utxo (c : Cfg) (s : Store) (ins : List (Nat × Nat)) (x : Nat × Nat)
    (tx cur : Nat) (fork : Bool)
    (hx : x ∈ ins) (hcur : s.utxo.get x = some cur) (h0 : cur ≠ 0) (hne : cur ≠ tx)
    (hfin : s.fin.get cur ≠ none) :
    (∀ s', exec c s (.lockUTXOs ins tx fork) ≠ .ok s') ∧ step c s (.lockUTXOs ins tx fork) = s := by
  have h := lockUTXOs_blocked (fork := fork) hx hcur h0 hne (Or.inr hfin)
  exact ⟨h, step_not_ok h⟩

example : exec cfg0 sample (.lockUTXOs [(9, 1)] 8 true) = .err := by decide +kernel

theorem takeover_not_finalized_deposit (c : Cfg) (s : Store) (d tx cur : Nat) (fork : Bool)
    (hcur : s.deposit.get d = some cur) (hne : cur ≠ tx) (hfin : s.fin.get cur ≠ none) :
    exec c s (.lockDeposit d tx fork) = .err ∧ step c s (.lockDeposit d tx fork) = s := by
  have h : exec c s (.lockDeposit d tx fork) = .err := lockDeposit_blocked hcur hne (Or.inr hfin)
  exact ⟨h, step_err h⟩

theorem takeover_not_finalized_mint (c : Cfg) (s : Store) (b a tx : Nat) (cur : Nat × Nat) (fork : Bool)
    (hcur : s.mint.get b = some cur) (hne : cur ≠ (tx, a)) (hfin : s.fin.get cur.1 ≠ none) :
    exec c s (.lockMint b a tx fork) = .err ∧ step c s (.lockMint b a tx fork) = s := by
  have h : exec c s (.lockMint b a tx fork) = .err := lockMint_blocked hcur hne (Or.inr hfin)
  exact ⟨h, step_err h⟩

/-- `takeover_prunes` (outputs): after a successful `LockUTXOs`, every listed slot is held by
    `tx`, and every transaction that held a listed slot before (other than `tx`) has no
    TRANSACTION record in that same resulting database — and it had no FINALIZATION record. -/
theorem takeover_prunes_utxo (c : Cfg) (s s' : Store) (ins : List (Nat × Nat)) (x : Nat × Nat)
    (tx cur : Nat) (fork : Bool)
    (hok : exec c s (.lockUTXOs ins tx fork) = .ok s')
    (hx : x ∈ ins) (hcur : s.utxo.get x = some cur) (h0 : cur ≠ 0) (hne : cur ≠ tx) :
    s'.utxo.get x = some tx ∧ s'.tx.get cur = none ∧ s.fin.get cur = none ∧ fork = true := by
  have hok' : lockUTXOs ins tx fork s = .ok s' := hok
  obtain ⟨hf, hfin, hgone⟩ := lockUTXOs_displaced hok' hx hcur h0 hne
  exact ⟨by rw [(lockUTXOs_frame hok').utxo x, if_pos hx], hgone, hfin, hf⟩

-- the pending holder 5 of (9,0) is displaced by 8 on the finalization path: body of 5 is gone
example : okAnd (exec cfg0 sample (.lockUTXOs [(9, 0)] 8 true)) (fun s' =>
    s'.utxo.get (9, 0) == some 8 && s'.tx.get 5 == none && s'.tx.get 6 == some ()) = true := by decide +kernel

theorem takeover_prunes_deposit (c : Cfg) (s s' : Store) (d tx cur : Nat) (fork : Bool)
    (hok : exec c s (.lockDeposit d tx fork) = .ok s')
    (hcur : s.deposit.get d = some cur) (hne : cur ≠ tx) :
    s'.deposit.get d = some tx ∧ s'.tx.get cur = none ∧ s.fin.get cur = none ∧ fork = true := by
  have h := lockDeposit_ok (hok : lockDeposit s d tx fork = .ok s')
  rw [hcur] at h
  rcases h with ⟨⟨⟩, _⟩ | ⟨hg, _⟩ | ⟨_, ⟨⟩, _, hf, hfin, rfl⟩
  · exact absurd (Option.some.inj hg) hne
  · exact ⟨Map.get_set_same _ _ _, Map.get_del_same _ _, hfin, hf⟩

theorem takeover_prunes_mint (c : Cfg) (s s' : Store) (b a tx : Nat) (cur : Nat × Nat) (fork : Bool)
    (hok : exec c s (.lockMint b a tx fork) = .ok s')
    (hcur : s.mint.get b = some cur) (hne : cur ≠ (tx, a)) :
    s'.mint.get b = some (tx, a) ∧ s'.tx.get cur.1 = none ∧ s.fin.get cur.1 = none ∧ fork = true := by
  have h := lockMint_ok (hok : lockMint s b a tx fork = .ok s')
  rw [hcur] at h
  rcases h with ⟨⟨⟩, _⟩ | ⟨hg, _⟩ | ⟨_, ⟨⟩, _, hf, hfin, rfl⟩
  · exact absurd (Option.some.inj hg) hne
  · exact ⟨Map.get_set_same _ _ _, Map.get_del_same _ _, hfin, hf⟩

-- quirk reproduced from the code: the same transaction with another amount prunes *itself*
example : okAnd (exec cfg0 sample (.lockMint 7 1 5 true)) (fun s' =>
    s'.mint.get 7 == some (5, 1) && s'.tx.get 5 == none) = true := by decide +kernel

theorem inv_empty : Inv Store.empty := by
  intro y hy; simp [Store.empty, Map.get] at hy

theorem inv_reachable (c : Cfg) (ops : List Op) : Inv (run c Store.empty ops) :=
  run_invariant c (fun _ _ _ _ he hi => exec_inv he hi) inv_empty

/-- executable form of `Inv` -/
def invB (s : Store) : Bool := s.utxo.all (fun p => (s.fin.get p.1.1).isSome)

theorem inv_of_invB {s : Store} (h : invB s = true) : Inv s := by
  intro y hy
  cases hg : s.utxo.get y with
  | none => rw [hg] at hy; cases hy
  | some v =>
    exact List.all_eq_true.mp h (y, v) (Map.mem_of_get hg)

example : Inv sample := inv_of_invB (by decide +kernel)

/-- a FINALIZATION record is never removed -/
theorem finalization_permanent (c : Cfg) (s : Store) (ops : List Op) (t : Nat) (h : s.fin.get t ≠ none) :
    (run c s ops).fin.get t ≠ none :=
  run_invariant c (fun _ _ _ _ he h => exec_fin_mono he h) h

/-- a holder `t` keeps its slots over any history in which it is protected from every call: the
    common form of `finalized_holder_stable` and `nonfork_holder_stable` -/
theorem holder_stable (c : Cfg) (s : Store) (ops : List Op) (t : Nat) (g : ∀ op ∈ ops, Prot s op.isFork t) :
    (∀ x, Inv s → t ≠ 0 → s.utxo.get x = some t → (run c s ops).utxo.get x = some t) ∧
    (∀ d, s.deposit.get d = some t → (run c s ops).deposit.get d = some t) ∧
    (∀ b a, s.mint.get b = some (t, a) → (run c s ops).mint.get b = some (t, a)) :=
  ⟨fun x hi h0 hx => (run_protected c (P := fun s => Inv s ∧ s.utxo.get x = some t)
      (fun _ _ _ he hp ⟨hi, hx⟩ => ⟨exec_inv he hi, exec_holder_utxo he hi hx h0 hp⟩) g ⟨hi, hx⟩).2,
   fun _ hx => run_protected c (fun _ _ _ he hp hx => exec_holder_deposit he hx hp) g hx,
   fun _ _ hx => run_protected c (fun _ _ _ he hp hx => exec_holder_mint he hx hp) g hx⟩

/-- `finalized_holder_stable`: once a finalized transaction `t` holds an output, a deposit or a
    mint batch, it holds it after *any* further list of calls (fork takeovers, other
    finalizations, anything).  For outputs the database must satisfy `Inv`, which every
    database reachable from the empty one does. -/
theorem finalized_holder_stable (c : Cfg) (s : Store) (ops : List Op) (t : Nat) (hfin : s.fin.get t ≠ none) :
    (∀ x, Inv s → t ≠ 0 → s.utxo.get x = some t → (run c s ops).utxo.get x = some t) ∧
    (∀ d, s.deposit.get d = some t → (run c s ops).deposit.get d = some t) ∧
    (∀ b a, s.mint.get b = some (t, a) → (run c s ops).mint.get b = some (t, a)) :=
  holder_stable c s ops t (fun _ _ => Or.inr hfin)

example : (run cfg0 sample [.lockUTXOs [(9, 1)] 8 true, .lockUTXOs [(9, 1), (9, 2)] 5 true,
    .snapshot 1 [{ id := 9, ins := [.genesis], outs := [⟨0, [1]⟩, ⟨164, [2]⟩, ⟨0, [3]⟩] }] .ok,
    .snapshot 2 [{ id := 5, ins := [.utxo 9 0], outs := [⟨0, [4]⟩] }] .ok]).utxo.get (9, 1) = some 6 := by decide +kernel

/-- `nonfork_holder_stable` (double-spend freedom of ordinary admission): over any history in
    which no call carries the fork flag — any mix of admissions by any transactions, body
    writes and finalizations — whoever holds a slot keeps it.  So of all conflicting non-fork
    requests for a slot exactly the first one wins, under every interleaving. -/
theorem nonfork_holder_stable (c : Cfg) (s : Store) (ops : List Op) (hnf : ∀ op ∈ ops, op.isFork = false) :
    (∀ x t, Inv s → t ≠ 0 → s.utxo.get x = some t → (run c s ops).utxo.get x = some t) ∧
    (∀ d t, s.deposit.get d = some t → (run c s ops).deposit.get d = some t) ∧
    (∀ b v, s.mint.get b = some v → (run c s ops).mint.get b = some v) :=
  have g (t : Nat) : ∀ op ∈ ops, Prot s op.isFork t := fun op ho => Or.inl (hnf op ho)
  ⟨fun x t => (holder_stable c s ops t (g t)).1 x, fun d t => (holder_stable c s ops t (g t)).2.1 d,
   fun b v => (holder_stable c s ops v.1 (g v.1)).2.2 b v.2⟩

-- two conflicting admissions of the free output (9,2): the first wins in either order
example : (run cfg0 sample [.lockUTXOs [(9, 2)] 7 false, .lockUTXOs [(9, 2)] 8 false]).utxo.get (9, 2) = some 7 := by decide +kernel
example : (run cfg0 sample [.lockUTXOs [(9, 2)] 8 false, .lockUTXOs [(9, 2)] 7 false]).utxo.get (9, 2) = some 8 := by decide +kernel

/-! ## the deposit slot key is injective in (chain, transaction, index) -/

theorem colon_not_digit : ¬ ':' ∈ Nat.toDigits 10 n := by
  intro h
  have := Nat.isDigit_of_mem_toDigits (by decide) (by decide) h
  simp [Char.isDigit] at this

theorem toDigits_inj {m n : Nat} (h : Nat.toDigits 10 m = Nat.toDigits 10 n) : m = n := by
  have hm := Nat.ofDigitChars_ten_toDigits (n := m)
  have hn := Nat.ofDigitChars_ten_toDigits (n := n)
  rw [h] at hm
  exact hm.symm.trans hn

/-- the part after the last `:` determines the split -/
theorem split_last_colon {a a' d d' : List Char} (hd : ¬ ':' ∈ d) (hd' : ¬ ':' ∈ d')
    (h : a ++ ':' :: d = a' ++ ':' :: d') : a = a' ∧ d = d' := by
  induction a generalizing a' with
  | nil =>
    cases a' with
    | nil => simp at h; exact ⟨rfl, h⟩
    | cons c r =>
      simp at h
      exact absurd (by rw [h.2]; simp) hd
  | cons c r ih =>
    cases a' with
    | nil =>
      simp at h
      exact absurd (by rw [← h.2]; simp) hd'
    | cons c' r' =>
      simp at h
      obtain ⟨rfl, h2⟩ := h
      obtain ⟨rfl, rfl⟩ := ih h2
      exact ⟨rfl, rfl⟩

/-- `depositKey_inj`: two deposits whose chain ids print with the same width (always 64 hex
    characters) and that differ in chain, transaction id or output index hash different texts —
    even when the transaction id itself contains `:` and digits. -/
theorem depositKey_inj (chain chain' tx tx' : List Char) (i i' : Nat)
    (hlen : chain.length = chain'.length)
    (h : DepositKey.text chain tx i = DepositKey.text chain' tx' i') :
    chain = chain' ∧ tx = tx' ∧ i = i' := by
  unfold DepositKey.text at h
  obtain ⟨hc, hr⟩ := List.append_inj h hlen
  simp only [List.cons.injEq, true_and] at hr
  obtain ⟨ht, hd⟩ := split_last_colon colon_not_digit colon_not_digit hr
  exact ⟨hc, ht, toDigits_inj hd⟩

example : DepositKey.text "ab".toList "0xabc:1".toList 1 ≠ DepositKey.text "ab".toList "0xabc".toList 11 := by decide +kernel
example : DepositKey.text "ab".toList "0xabc:1".toList 1 = "ab:0xabc:1:1".toList := by decide +kernel

end Mixin.C03
