import Mixin.Facts.ExpectedC32
import Mixin.Model.Base58
import Mixin.Model.Keys
import Mixin.Proofs.Base58
import Mathlib.Algebra.Module.Basic
import Mathlib.Data.ZMod.Basic
/-!
# C32 — one-time keys and addresses round-trip correctly
-/
namespace Mixin.C32
open Mixin.Proto Mixin.Keys

/-! ## ghost keys: algebra over an arbitrary module over the scalar ring

`G` is any additive commutative group on which the scalars `ZMod ℓ` act (edwards25519's
prime-order subgroup with `ℓ = ell` is one instance), `g` any point (the base point),
`Hs` any function of (shared point, output index) — the real `HashScalar`. -/

section Ghost
variable {ℓ : ℕ} {G : Type} [AddCommGroup G] [Module (ZMod ℓ) G] {I : Type}

/-- `DeriveGhostPublicKey(r, A, B, i) = B + Hs(r•A, i)•G` -/
def derivePub (g : G) (Hs : G → I → ZMod ℓ) (r : ZMod ℓ) (A Bv : G) (i : I) : G := Bv + Hs (r • A) i • g
/-- `DeriveGhostPrivateKey(R, a, b, i) = Hs(a•R, i) + b` -/
def derivePriv (Hs : G → I → ZMod ℓ) (R : G) (a b : ZMod ℓ) (i : I) : ZMod ℓ := Hs (a • R) i + b
/-- `ViewGhostOutputKey(P, a, R, i) = P − Hs(a•R, i)•G` -/
def viewOut (g : G) (Hs : G → I → ZMod ℓ) (P : G) (a : ZMod ℓ) (R : G) (i : I) : G := P - Hs (a • R) i • g

/-- The public key of the private key the recipient derives is the one-time public key the
    sender derived — for every address (a, b), mask r and output index i. -/
theorem ghost_key_agree (g : G) (Hs : G → I → ZMod ℓ) (a b r : ZMod ℓ) (i : I) :
    derivePriv Hs (r • g) a b i • g = derivePub g Hs r (a • g) (b • g) i := by
  unfold derivePriv derivePub
  rw [add_smul, smul_comm a r g, add_comm]

/-- Viewing with the private view key recovers the recipient's public spend key. -/
theorem view_recovers_spend (g : G) (Hs : G → I → ZMod ℓ) (a r : ZMod ℓ) (Bv : G) (i : I) :
    viewOut g Hs (derivePub g Hs r (a • g) Bv i) a (r • g) i = Bv := by
  unfold viewOut derivePub
  rw [smul_comm a r g, add_sub_cancel_right]

/-! `Transaction.ViewGhostKey`: the outputs of a transaction are built one after the other
(`AddOutputWithType` derives the ghost keys of output number `i` with index `i`); the viewer walks
over all outputs and views each *script* output with its position in the whole output list. -/

/-- an output as the sender specifies it: script type?, mask scalar, recipients' public spend keys -/
structure TxOut (ℓ : ℕ) (G : Type) where
  script : Bool
  r : ZMod ℓ
  spends : List G

/-- `AddOutputWithType` for outputs number `i, i+1, …`: (script?, mask `r•g`, ghost keys) -/
def txAsBuilt (g : G) (Hs : G → ℕ → ZMod ℓ) (a : ZMod ℓ) : ℕ → List (TxOut ℓ G) → List (Bool × G × List G)
  | _, [] => []
  | i, o :: rest =>
    (o.script, o.r • g, o.spends.map (fun B => derivePub g Hs o.r (a • g) B i)) :: txAsBuilt g Hs a (i + 1) rest

/-- `Transaction.ViewGhostKey(a)` from output number `i` on -/
def viewTxFrom (g : G) (Hs : G → ℕ → ZMod ℓ) (a : ZMod ℓ) : ℕ → List (Bool × G × List G) → List (List G)
  | _, [] => []
  | i, (sc, R, keys) :: rest =>
    if sc then keys.map (fun P => viewOut g Hs P a R i) :: viewTxFrom g Hs a (i + 1) rest
    else viewTxFrom g Hs a (i + 1) rest

/-- Viewing a transaction recovers, script output by script output, exactly the recipients' public
    spend keys — for every output list, whatever other outputs stand before or between them. -/
theorem view_tx_recovers_spend (g : G) (Hs : G → ℕ → ZMod ℓ) (a : ZMod ℓ) :
    ∀ (outs : List (TxOut ℓ G)) (i : ℕ),
      viewTxFrom g Hs a i (txAsBuilt g Hs a i outs) = (outs.filter (·.script)).map (·.spends)
  | [], _ => rfl
  | o :: rest, i => by
    have ih := view_tx_recovers_spend g Hs a rest (i + 1)
    have hk : (o.spends.map (fun B => derivePub g Hs o.r (a • g) B i)).map
        (fun P => viewOut g Hs P a (o.r • g) i) = o.spends :=
      map_map_cancel fun B _ => view_recovers_spend g Hs a o.r B i
    cases hs : o.script with
    | true => simp [txAsBuilt, viewTxFrom, hs, hk, ih]
    | false => simp [txAsBuilt, viewTxFrom, hs, ih]

end Ghost

/-! The executable model works with discrete logarithms modulo `ell`; its operations are the
abstract ones read in `ZMod ell` (a point `x • g` is represented by `x`). This is said operation by
operation; `ghost_key_agree` and `view_recovers_spend` are not restated for the executable functions. -/

theorem derivePubDl_cast (bv hs : ℕ) : ((derivePubDl bv hs : ℕ) : ZMod ell) = (bv : ZMod ell) + hs := by
  simp [derivePubDl, ZMod.natCast_mod]

theorem viewOutDl_cast (p hs : ℕ) : ((viewOutDl p hs : ℕ) : ZMod ell) = (p : ZMod ell) - hs := by
  have hle : hs % ell ≤ ell := Nat.le_of_lt (Nat.mod_lt _ (by decide))
  simp [viewOutDl, ZMod.natCast_mod, Nat.cast_sub hle]
  ring

/-- the model's own agreement: same hash ⇒ same discrete log -/
theorem ghost_dl_agree (hs b : ℕ) : derivePrivDl hs b = derivePubDl b hs := by
  simp [derivePrivDl, derivePubDl, Nat.add_comm]

theorem derivePrivDl_cast (hs b : ℕ) : ((derivePrivDl hs b : ℕ) : ZMod ell) = (hs : ZMod ell) + b := by
  rw [ghost_dl_agree, derivePubDl_cast, add_comm]

example : derivePub? 5 7 11 = some 18 ∧ derivePriv? 3 11 7 = some 18 ∧ viewOut? 18 3 11 = some 7 := by decide +kernel
-- the executable counterpart: the second output (index 1) is viewed with the hash of index 1
example : viewTx (fun m i => if m = 1 ∧ i = 1 then some 11 else none) [⟨false, 0, [5]⟩, ⟨true, 1, [18]⟩] = some [[7]] := by decide +kernel
example : derivePub? 0 7 11 = none ∧ derivePriv? 0 11 7 = none := by decide +kernel

open Mixin.Base58

/-- the strings `base58.Decode` does not answer with the empty byte string for: every byte is
    in the alphabet (`b58[c] ≠ 255`) -/
abbrev Valid := Mixin.Base58.Valid

/-- `Decode` evaluates its input exactly when every byte is in the alphabet … -/
theorem base58_accepts_iff (s : Bytes) : (decode? s).isSome ↔ Valid s := by
  by_cases h : Valid s
  · simp [decode?_eq_conv s h, h]
  · simp [decode?_none s h, h]

/-- … and answers the empty byte string otherwise. -/
theorem base58_decode_invalid (s : Bytes) (h : ¬ Valid s) : decode s = [] := by
  simp [decode, decode?_none s h]

/-- The ten-characters-at-a-time loop of `Decode` is plain positional evaluation in base 58. -/
theorem decode_chunked_eq (s : Bytes) (h : Valid s) :
    decodeLoop s.length s 0 = some (ofBE 58 (s.map b58)) :=
  (decodeLoop_eq _ _ _ (Nat.le_refl _)).trans (chunkTotal_eq _ _ h)

/-- `Decode` ranges over the runes of each ten-byte chunk (UTF-8 decoding, `v > 255` guard,
    `b58[v]` lookup); on every byte string that is the same as looking each *byte* up in the
    table: a non-ASCII byte always ends in the early return. -/
theorem decode_runes_eq_bytes (total : Nat) (chunk : Bytes) :
    chunkRunes chunk.length total chunk = chunkTotal total chunk :=
  chunkRunes_eq _ _ _ (Nat.le_refl _)

-- U+0141 (c5 81) has low byte 0x41 = 'A', a wide rune cut by a chunk end, a lone lead byte
example : decode [50, 0xc5, 0x81, 51] = [] ∧ decode [0xc5] = [] ∧ decode [50, 0xe2, 0x82] = [] := by decide +kernel
example : decodeRune 0xc5 [0x81] = (0x141, 2) ∧ decodeRune 0xe2 [0x82, 0xac] = (0x20ac, 3) ∧
    decodeRune 0xc0 [0x80] = (0xFFFD, 1) ∧ decodeRune 0xed [0xa0, 0x80] = (0xFFFD, 1) := by decide +kernel

/-- The `58^10`-at-a-time loop of `Encode` is plain repeated division by 58. -/
theorem encode_chunked_eq (x : Nat) : encodeLoop x x = (digitsLE 58 x).map alpha := by
  rw [encodeLoop_eq _ _ (Nat.le_refl _), digitsLE_eq (by decide)]

/-- `Decode(Encode(b)) = b` for every byte string. -/
theorem base58_decode_encode (bs : Bytes) : decode (encode bs) = bs := by
  have hlt := conv_lt (b1 := 256) (b2 := 58) (by decide) (bs.map UInt8.toNat)
  rw [encode_eq_conv, decode_eq_conv _ (valid_map_alpha _ hlt), map_b58_alpha _ hlt,
    conv_roundtrip (by decide) _ (map_toNat_lt bs), map_toUInt8_toNat]

/-- `Encode(Decode(s)) = s` for every string over the alphabet. -/
theorem base58_encode_decode (s : Bytes) (h : Valid s) : encode (decode s) = s := by
  have hlt := conv_lt (b1 := 58) (b2 := 256) (by decide) (s.map b58)
  rw [decode_eq_conv s h, encode_eq_conv, map_toNat_toUInt8 _ hlt, conv_roundtrip (by decide) _ (map_b58_lt s h),
    map_alpha_b58 s h]

theorem encode_valid (bs : Bytes) : Valid (encode bs) := by
  rw [encode_eq_conv]
  exact valid_map_alpha _ (conv_lt (by decide) _)

example : Valid [49, 50, 122] := by
  show ∀ c ∈ [49, 50, 122], b58 c ≠ 255
  decide +kernel
example : ¬ Valid [49, 48] := by
  show ¬ ∀ c ∈ [49, 48], b58 c ≠ 255
  decide +kernel
example : encode [0, 0, 1, 2] = [49, 49, 53, 84] ∧ decode [49, 49, 53, 84] = [0, 0, 1, 2] := by decide +kernel
example : decode [49, 48, 50] = [] := by decide +kernel

theorem fromHexChar_hexDigit : ∀ n, n < 16 → fromHexChar (hexDigit n) = some n := by decide

theorem byte_split (x : UInt8) : ((x.toNat / 16) * 16 + x.toNat % 16).toUInt8 = x := by
  rw [Nat.div_add_mod']
  exact UInt8.ofNat_toNat

theorem hexDecode_encode_append : ∀ (b t : Bytes),
    hexDecode (hexEncode b ++ t) = (hexDecode t).map (b ++ ·)
  | [], t => by simp [hexEncode]
  | x :: r, t => by
    have h1 : x.toNat / 16 < 16 := Nat.div_lt_of_lt_mul (UInt8.toNat_lt_size x)
    have h2 : x.toNat % 16 < 16 := Nat.mod_lt _ (by decide)
    simp only [hexEncode, List.cons_append, hexDecode, fromHexChar_hexDigit _ h1, fromHexChar_hexDigit _ h2,
      hexDecode_encode_append r t, byte_split]
    cases hexDecode t <;> simp

/-- `hex.DecodeString(hex.EncodeToString(b)) = b` -/
theorem hex_decode_encode (b : Bytes) : hexDecode (hexEncode b) = some b := by
  simpa [hexDecode] using hexDecode_encode_append b []

/-- Printing then parsing a key or hash (n = 32) or a signature (n = 64) gives the value back. -/
theorem hex_print_parse (n : Nat) (b : Bytes) (h : b.length = n) : fixedParse n (hexEncode b) = some b := by
  simp [fixedParse, hex_decode_encode, h]

theorem key_print_parse (k : Bytes) (h : k.length = 32) : fixedParse 32 (hexEncode k) = some k :=
  hex_print_parse 32 k h

theorem signature_print_parse (sg : Bytes) (h : sg.length = 64) : fixedParse 64 (hexEncode sg) = some sg :=
  hex_print_parse 64 sg h

theorem hexEncode_length : ∀ b : Bytes, (hexEncode b).length = 2 * b.length
  | [] => rfl
  | _ :: r => by simp only [hexEncode, List.length_cons, hexEncode_length r]; omega

theorem hexVal_digits : ∀ (ds : List Nat) (acc : Nat), (∀ d ∈ ds, d < 16) →
    hexVal acc (ds.map hexDigit) = some (ds.foldl (fun a d => a * 16 + d) acc)
  | [], _, _ => rfl
  | d :: r, acc, h => by
    simp only [List.map_cons, Keys.hexVal, fromHexChar_hexDigit d (h d (.head _)), List.foldl_cons]
    exact hexVal_digits r _ fun x hx => h x (.tail _ hx)

theorem hexDecode_digits : ∀ (k : Nat) (ds : List Nat), ds.length = 2 * k → (∀ d ∈ ds, d < 16) →
    ∃ out, hexDecode (ds.map hexDigit) = some out ∧ out.length = k
  | 0, [], _, _ => ⟨[], rfl, rfl⟩
  | 0, _ :: _, hl, _ => nomatch hl
  | k + 1, [], hl, _ => nomatch hl
  | k + 1, [_], hl, _ => nomatch Nat.succ.inj hl
  | k + 1, a :: b :: r, hl, h => by
    obtain ⟨out, ho, hlen⟩ := hexDecode_digits k r (Nat.succ.inj (Nat.succ.inj hl))
      fun x hx => h x (.tail _ (.tail _ hx))
    refine ⟨(a * 16 + b).toUInt8 :: out, ?_, congrArg (· + 1) hlen⟩
    simp only [List.map_cons, hexDecode, fromHexChar_hexDigit a (h a (.head _)),
      fromHexChar_hexDigit b (h b (.tail _ (.head _))), ho]

theorem fmt016x_eq (m : Nat) (hm : m < 2 ^ 64) :
    ∃ ds : List Nat, fmt016x m = ds.map hexDigit ∧ ds.length = 16 ∧ (∀ d ∈ ds, d < 16) ∧ ofBE 16 ds = m := by
  have hlen : (Nat.digits 16 m).length ≤ 16 := (Nat.digits_length_le_iff (by decide) m).mpr (by simpa using hm)
  refine ⟨List.replicate (16 - (Nat.digits 16 m).length) 0 ++ (Nat.digits 16 m).reverse, ?_, ?_, ?_, ?_⟩
  · unfold fmt016x
    rw [digitsLE_eq (by decide)]
    simp only [List.length_map, List.length_reverse, List.map_append, List.map_replicate]
    rfl
  · simp only [List.length_append, List.length_replicate, List.length_reverse]; omega
  · exact zeros_digits_lt (by decide) _ _
  · rw [ofBE_zeros, ofBE_digits]

/-- Printing then parsing a collective signature (64-byte signature, 64-bit mask) gives it back. -/
theorem cosi_print_parse (sg : Bytes) (mask : Nat) (hs : sg.length = 64) (hm : mask < 2 ^ 64) :
    cosiParse (cosiPrint sg mask) = some (sg, mask) := by
  obtain ⟨ds, hfmt, hdl, hdlt, hval⟩ := fmt016x_eq mask hm
  obtain ⟨tail, htail, htl⟩ := hexDecode_digits 8 ds hdl hdlt
  have hdrop : (hexEncode sg ++ fmt016x mask).drop (64 * 2) = fmt016x mask := by
    apply List.drop_left'
    rw [hexEncode_length, hs]
  have hne : fmt016x mask ≠ [] := List.ne_nil_of_length_pos (by rw [hfmt, List.length_map, hdl]; decide)
  have hpu : parseUintHex (fmt016x mask) = some mask := by
    unfold parseUintHex
    rw [if_neg hne, hfmt, hexVal_digits ds 0 hdlt, show ds.foldl (fun a d => a * 16 + d) 0 = mask from hval]
    exact if_pos hm
  unfold cosiParse cosiPrint
  rw [hexDecode_encode_append, hdrop, hpu, hfmt, htail]
  simp [hs, htl, List.take_left' hs]

example : cosiParse (cosiPrint (List.replicate 64 0xab) 0x1f) = some (List.replicate 64 0xab, 0x1f) := by decide +kernel
example : fixedParse 32 (hexEncode (List.replicate 32 7)) = some (List.replicate 32 7) := by decide +kernel
-- the parsers also accept upper-case digits, which do not print back identically
example : fixedParse 1 [65, 66] = some [0xab] ∧ hexEncode [0xab] = [97, 98] := by decide +kernel


/-! ## addresses

`H` is the checksum hash (`crypto.Sha256Hash`, 32 bytes of output, otherwise arbitrary),
`ck` is `Key.CheckKey`. Only the two public keys travel through the text form; the private
keys of a parsed address are zero. -/

/-- Printing an address whose public keys pass `CheckKey` and parsing the text gives the keys back. -/
theorem address_print_parse (H : Bytes → Bytes) (ck : Bytes → Bool) (spend view : Bytes)
    (hH : ∀ m, (H m).length = 32) (hs : spend.length = 32) (hv : view.length = 32)
    (hcs : ck spend = true) (hcv : ck view = true) :
    addrParse H ck (addrPrint H spend view) = some (spend, view) := by
  have hsv : (spend ++ view).length = 64 := by rw [List.length_append, hs, hv]
  unfold addrParse addrPrint
  simp only []
  rw [List.append_assoc prefixXIN]
  generalize hc : (H (prefixXIN ++ (spend ++ view))).take 4 = c
  have hlen : (spend ++ view ++ c).length = 68 := by
    rw [List.length_append, hsv, ← hc, List.length_take, hH]; rfl
  rw [List.take_left' (i := 3) rfl, List.drop_left' (i := 3) rfl, base58_decode_encode, hlen,
    List.take_left' hsv, List.drop_left' hsv, hc, List.append_assoc spend, List.take_left' hs,
    List.drop_left' hs, List.take_left' hv]
  simp [hcs, hcv]

/-- Every address string the parser accepts prints back identically: there is no second
    accepted spelling (extra leading characters, other case, other checksum position). -/
theorem address_parse_print (H : Bytes → Bytes) (ck : Bytes → Bool) (s spend view : Bytes)
    (h : addrParse H ck s = some (spend, view)) : addrPrint H spend view = s := by
  unfold addrParse at h
  generalize hd : decode (s.drop 3) = d at h
  -- every guard of the parser that did not return contributes its negation
  have ⟨hp, hl, hc, _, _, hsp, hvw⟩ :
      s.take 3 = prefixXIN ∧ d.length = 68 ∧ (H (prefixXIN ++ d.take 64)).take 4 = d.drop 64 ∧
      ck (d.take 32) = true ∧ ck ((d.drop 32).take 32) = true ∧ d.take 32 = spend ∧ (d.drop 32).take 32 = view := by
    simpa only [Option.ite_none_left_eq_some, Decidable.not_not, Option.some.injEq, Prod.mk.injEq] using h
  -- the remainder is over the alphabet, otherwise `Decode` would have answered ""
  have hvalid : Valid (s.drop 3) := by
    by_contra hn
    rw [base58_decode_invalid _ hn] at hd
    rw [← hd] at hl
    cases hl
  have henc := base58_encode_decode _ hvalid
  rw [hd] at henc
  have hsv : spend ++ view = d.take 64 := by
    rw [← hsp, ← hvw, show (64 : Nat) = 32 + 32 from rfl, List.take_add]
  unfold addrPrint
  simp only []
  rw [List.append_assoc prefixXIN, hsv, hc, List.take_append_drop, henc, ← hp, List.take_append_drop]

/-- The text form determines the two public keys (used by C34, where the Go code compares
    address strings). -/
theorem address_print_injective (H : Bytes → Bytes) (a b a' b' : Bytes)
    (ha : a.length = 32) (hb : b.length = 32) (ha' : a'.length = 32) (hb' : b'.length = 32)
    (h : addrPrint H a b = addrPrint H a' b') : a = a' ∧ b = b' := by
  unfold addrPrint at h
  simp only [] at h
  have h1 := List.append_cancel_left h
  have h2 := congrArg decode h1
  rw [base58_decode_encode, base58_decode_encode] at h2
  simp only [List.append_assoc] at h2
  have h3 := List.append_inj h2 (by rw [ha, ha'])
  have h4 := List.append_inj h3.2 (by rw [hb, hb'])
  exact ⟨h3.1, h4.1⟩

example : addrParse (fun _ => List.replicate 32 9) (fun _ => true)
    (addrPrint (fun _ => List.replicate 32 9) (List.replicate 32 1) (List.replicate 32 2)) =
      some (List.replicate 32 1, List.replicate 32 2) :=
  address_print_parse _ _ _ _ (fun _ => rfl) rfl rfl rfl rfl

end Mixin.C32
