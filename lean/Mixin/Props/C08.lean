import Mixin.Model.PeerWire
import Mixin.Proofs.PeerMsg
import Mixin.Props.C31
import Mixin.Facts.ExpectedC08
/-!
# C08 — peer message parsing is total and faithful

Theorems about `Mixin.Model.PeerMsg`, the model of `p2p/handle.go`
(`parseNetworkMessage`, `parseTransactionsPayload`, `unmarshalSyncPoints`, `build*Message`).
The snapshot / transaction decoders and `CheckKey` are an arbitrary `Oracle`.
-/
namespace Mixin.C08
open Mixin.PeerMsg
open Mixin.Proto (Bytes)

theorem parse_cons (O : Oracle) (v t : UInt8) (rest : Bytes) :
    parse O v (t :: rest) = dispatch O { type := t, version := v } t (t :: rest) := rfl

theorem dispatch_safe (O : Oracle) (msg : Msg) (t : UInt8) (data : Bytes) (hl : 1 ≤ data.length) :
    (dispatch O msg t data).Safe msg.SameHead := by
  unfold dispatch
  exact
    Res.safe_ite (fun _ => (parsePreCommitments_safe O msg data).mono fun _ h => h.1) fun _ =>
    Res.safe_ite (fun _ => parseGraph_safe msg data) fun _ =>
    Res.safe_ite (fun _ => parsePing_safe msg data) fun _ =>
    Res.safe_ite (fun _ => parseAuthentication_safe msg data) fun _ =>
    Res.safe_ite (fun _ => parseSnapshotConfirm_safe msg data) fun _ =>
    Res.safe_ite (fun _ => parseTransaction_safe O msg data hl) fun _ =>
    Res.safe_ite (fun _ => parseBundle_safe O msg data hl) fun _ =>
    Res.safe_ite (fun _ => parseTransactionRequest_safe msg data) fun _ =>
    Res.safe_ite (fun _ => (parseAnnouncement_safe O msg data hl).mono fun _ h => h.1) fun _ =>
    Res.safe_ite (fun _ => (parseCommitment_safe O msg data hl).mono fun _ h => h.1) fun _ =>
    Res.safe_ite (fun _ => (parseFullChallenge_safe O msg data hl).mono fun _ h => h.1) fun _ =>
    Res.safe_ite (fun _ => parseTransactionChallenge_safe O msg data hl) fun _ =>
    Res.safe_ite (fun _ => parseResponse_safe msg data hl) fun _ =>
    Res.safe_ite (fun _ => parseFinalization_safe O msg data hl) fun _ =>
    Res.safe_ite (fun _ => parseRelay_safe msg data) fun _ =>
    Res.safe_ite (fun _ => parseConsumers_safe msg data hl) fun _ => ⟨rfl, rfl⟩

/-- **Totality.** For every oracle, version and byte string the parser returns a message or an
    error: no slice expression of `parseNetworkMessage` can go out of range. -/
theorem parse_total (O : Oracle) (v : UInt8) (b : Bytes) : parse O v b ≠ .panic :=
  match b with
  | [] => nofun
  | _ :: _ => (dispatch_safe O _ _ _ (Nat.le_add_left 1 _)).ne_panic

/-- the sub-parsers are total as well (they are reachable on their own from relayed data) -/
theorem payload_total (O : Oracle) (b : Bytes) : parseTransactionsPayload O b ≠ .panic :=
  (parseTransactionsPayload_safe O b).ne_panic

theorem points_total (b : Bytes) : unmarshalSyncPoints b ≠ .panic :=
  (unmarshalSyncPoints_safe b).ne_panic

theorem parse_type (O : Oracle) (v t : UInt8) (rest : Bytes) (m : Msg) (h : parse O v (t :: rest) = .ok m) :
    m.type = t ∧ m.version = v :=
  (dispatch_safe O _ t _ (Nat.le_add_left 1 _)).of_ok h

def tAll := [tAnnouncement, tPreCommitments, tGraph, tPing, tAuthentication, tSnapshotConfirm,
    tTransaction, tTransactionBundle, tFinalizedTransactionBundle, tTransactionRequest, tCommitment,
    tFullChallenge, tTransactionChallenge, tResponse, tFinalization, tRelay, tConsumers]

section
attribute [local simp] dispatch tPing tAuthentication tGraph tSnapshotConfirm tTransactionRequest tTransaction
  tTransactionBundle tFinalizedTransactionBundle tPreCommitments tAnnouncement tCommitment tTransactionChallenge
  tResponse tFullChallenge tFinalization tRelay tConsumers

theorem dispatch_auth (O : Oracle) (m : Msg) (d : Bytes) :
    dispatch O m tAuthentication d = parseAuthentication m d := by simp

theorem dispatch_confirm (O : Oracle) (m : Msg) (d : Bytes) :
    dispatch O m tSnapshotConfirm d = parseSnapshotConfirm m d := by simp

theorem dispatch_tx (O : Oracle) (m : Msg) (d : Bytes) :
    dispatch O m tTransaction d = parseTransaction O m d := by simp

theorem dispatch_request (O : Oracle) (m : Msg) (d : Bytes) :
    dispatch O m tTransactionRequest d = parseTransactionRequest m d := by simp

theorem dispatch_ann (O : Oracle) (m : Msg) (d : Bytes) :
    dispatch O m tAnnouncement d = parseAnnouncement O m d := by simp

theorem dispatch_response (O : Oracle) (m : Msg) (d : Bytes) :
    dispatch O m tResponse d = parseResponse m d := by simp

theorem dispatch_finalization (O : Oracle) (m : Msg) (d : Bytes) :
    dispatch O m tFinalization d = parseFinalization O m d := by simp

theorem dispatch_commitment (O : Oracle) (m : Msg) (d : Bytes) :
    dispatch O m tCommitment d = parseCommitment O m d := by simp

theorem dispatch_full (O : Oracle) (m : Msg) (d : Bytes) :
    dispatch O m tFullChallenge d = parseFullChallenge O m d := by simp

theorem dispatch_txc (O : Oracle) (m : Msg) (d : Bytes) :
    dispatch O m tTransactionChallenge d = parseTransactionChallenge O m d := by simp

theorem dispatch_bundle (O : Oracle) (m : Msg) (d : Bytes) (t : UInt8)
    (h : t = tTransactionBundle ∨ t = tFinalizedTransactionBundle) :
    dispatch O m t d = parseBundle O m d := by
  rcases h with rfl | rfl <;> simp

theorem dispatch_graph (O : Oracle) (m : Msg) (d : Bytes) :
    dispatch O m tGraph d = parseGraph m d := by simp

theorem dispatch_pre (O : Oracle) (m : Msg) (d : Bytes) :
    dispatch O m tPreCommitments d = parsePreCommitments O m d := by simp

end

/-! ## build → parse, message kinds without lists

Hypotheses are the Go types of the builder arguments (`crypto.Hash`/`crypto.Key` are 32 bytes,
`crypto.Signature` 64) and the oracle facts "this encoding decodes" — the snapshot and
transaction codecs are modelled by other properties (C06, C07).  Two hypotheses answer a length guard
of the parser that the builder does not enforce: `hlen : 4 ≤ snap.length` of the announcement is
`len(data[1:]) <= 99` (64 + 32 + 4 = 100), `hsize : 257 ≤ b.length` of the full challenge is
`len(data[1:]) < 256`.

Each proof is one rewriting pass: the type byte selects the `case`, every slice expression of
the `case` is evaluated on the concatenation the builder produced (the fields have known
lengths), and the length guards are decided from the same lengths. -/

/-- the authentication envelope around a 137-byte authentication payload (C30) -/
theorem build_parse_authentication (O : Oracle) (v : UInt8) (d : Bytes) (hd : d.length = 137) :
    parse O v (buildAuthenticationMessage d) = .ok { type := tAuthentication, version := v, data := d } := by
  simp only [buildAuthenticationMessage, parse_cons, dispatch_auth, parseAuthentication, authenticationMessageSize,
    sliceFrom_cons, sliceFrom_zero, List.length_cons, hd, Nat.reduceAdd, ne_eq, not_true_eq_false, if_false]

theorem build_parse_announcement (O : Oracle) (v : UInt8) (sig R snap : Bytes) (info : SnapInfo)
    (hsig : sig.length = 64) (hR : R.length = 32) (hk : O.checkKey R = true)
    (hs : O.snap snap = some info) (hlen : 4 ≤ snap.length) :
    parse O v (buildAnnouncement sig R snap) =
      .ok { type := tAnnouncement, version := v, commitment := R, snapshot := some info, signature := some sig } := by
  have h3 : ¬ (sig ++ (R ++ snap)).length ≤ 99 := by simp only [List.length_append, hsig, hR]; omega
  simp only [buildAnnouncement, parse_cons, dispatch_ann, parseAnnouncement,
    sliceFrom_cons, sliceFrom_zero, sliceFrom_append, slice_cons, slice_prefix, copyN_append, copyN_exact,
    hsig, hR, hk, hs, h3, Nat.le_refl, Nat.reduceLeDiff, Nat.reduceSub, if_false, Bool.not_true, Bool.false_eq_true]

theorem build_parse_response (O : Oracle) (v : UInt8) (h si : Bytes) (hh : h.length = 32) (hsi : si.length = 32) :
    parse O v (buildResponse h si) = .ok { type := tResponse, version := v, snapshotHash := h, response := si } := by
  simp only [buildResponse, parse_cons, dispatch_response, parseResponse,
    sliceFrom_cons, sliceFrom_zero, sliceFrom_append, copyN_append, copyN_exact,
    List.length_append, hh, hsi, Nat.le_refl, Nat.reduceSub, Nat.reduceAdd, ne_eq, not_true_eq_false,
    if_false]

theorem build_parse_finalization (O : Oracle) (v : UInt8) (snap : Bytes) (info : SnapInfo)
    (hs : O.snap snap = some info) :
    parse O v (buildFinalization snap) = .ok { type := tFinalization, version := v, snapshot := some info } := by
  simp only [buildFinalization, parse_cons, dispatch_finalization, parseFinalization, sliceFrom_cons, sliceFrom_zero, hs]

theorem build_parse_confirm (O : Oracle) (v : UInt8) (h : Bytes) (hh : h.length = 32) :
    parse O v (buildSnapshotConfirm h) = .ok { type := tSnapshotConfirm, version := v, snapshotHash := h } := by
  simp only [buildSnapshotConfirm, parse_cons, dispatch_confirm, parseSnapshotConfirm, sliceFrom_cons, sliceFrom_zero,
    copyN_exact, List.length_cons, hh, Nat.reduceAdd, ne_eq, not_true_eq_false, if_false]

theorem build_parse_transaction (O : Oracle) (v : UInt8) (tx : Bytes) (ht : O.tx tx = true) :
    parse O v (buildTransaction tx) = .ok { type := tTransaction, version := v, transactions := [tx] } := by
  simp only [buildTransaction, parse_cons, dispatch_tx, parseTransaction, sliceFrom_cons, sliceFrom_zero, ht, if_true]

theorem build_parse_request (O : Oracle) (v : UInt8) (h : Bytes) (hh : h.length = 32) :
    parse O v (buildTransactionRequest h) = .ok { type := tTransactionRequest, version := v, transactionHash := h } := by
  simp only [buildTransactionRequest, parse_cons, dispatch_request, parseTransactionRequest, sliceFrom_cons,
    sliceFrom_zero, copyN_exact, List.length_cons, hh, Nat.reduceAdd, ne_eq, not_true_eq_false, if_false]

/-! ## build → parse, message kinds with lists -/

/-- `parseTransactionsPayload (buildTransactionsPayload txs) = txs` for 0..255 transactions -/
theorem payload_roundtrip (O : Oracle) (txs : List Bytes) (hn : txs.length ≤ 255)
    (hk : ∀ t ∈ txs, O.tx t = true) (hl : ∀ t ∈ txs, t.length < 2 ^ 32) :
    ∃ pl, buildTransactionsPayload txs = some pl ∧ 1 ≤ pl.length ∧ parseTransactionsPayload O pl = .ok txs := by
  refine ⟨UInt8.ofNat txs.length :: (txs.map (fun pl => beBytes 4 pl.length ++ pl)).flatten, ?_,
    Nat.le_add_left 1 _, ?_⟩
  · rw [buildTransactionsPayload, snapshotTransactionsMaximum, if_neg (Nat.not_lt.2 hn)]
  simp only [parseTransactionsPayload, sliceFrom_cons, sliceFrom_zero,
    UInt8.toNat_ofNat_of_lt' (Nat.lt_succ_of_le hn)]
  exact parseTxLoop_flatten O txs hk hl

/-- more than 255 transactions: the builder panics (`panic(total)`), nothing is sent -/
theorem payload_build_panics (txs : List Bytes) (hn : 255 < txs.length) : buildTransactionsPayload txs = none :=
  if_pos hn

theorem build_parse_bundle (O : Oracle) (v : UInt8) (txs : List Bytes) (typ : UInt8)
    (htyp : typ = tTransactionBundle ∨ typ = tFinalizedTransactionBundle) (hn : txs.length ≤ 255)
    (hk : ∀ t ∈ txs, O.tx t = true) (hl : ∀ t ∈ txs, t.length < 2 ^ 32) :
    ∃ b, buildTransactions txs typ = some b ∧
      parse O v b = .ok { type := typ, version := v, transactions := txs } := by
  obtain ⟨pl, h1, _, h3⟩ := payload_roundtrip O txs hn hk hl
  refine ⟨typ :: pl, by simp only [buildTransactions, h1], ?_⟩
  simp only [parse_cons, dispatch_bundle _ _ _ _ htyp, parseBundle, sliceFrom_cons, sliceFrom_zero, h3]

theorem build_parse_commitment (O : Oracle) (v : UInt8) (sig h R : Bytes) (ws : List Bytes)
    (hsig : sig.length = 64) (hh : h.length = 32) (hR : R.length = 32) (hk : O.checkKey R = true)
    (hw : ∀ w ∈ ws, w.length = 32) :
    parse O v (buildCommitment sig h R ws) =
      .ok { type := tCommitment, version := v, snapshotHash := h, commitment := R, wantTxs := ws,
            signature := some sig, unsigned := h ++ (R ++ ws.flatten) } := by
  have hf := length_flatten_of_length_eq ws hw
  have h3 : ¬ (sig ++ (h ++ (R ++ ws.flatten))).length < 128 := by
    simp only [List.length_append, hsig, hh, hR]; omega
  simp only [buildCommitment, parse_cons, dispatch_commitment, parseCommitment,
    sliceFrom_cons, sliceFrom_zero, sliceFrom_append, slice_cons, slice_prefix, copyN_append, copyN_exact,
    hsig, hh, hR, hk, h3, Nat.le_refl, Nat.reduceLeDiff, Nat.reduceSub, if_false, Bool.not_true, Bool.false_eq_true]
  cases ws with
  | nil => rfl
  | cons w t =>
    have hloop := wantLoop_flatten (w :: t) hw [] 0 rfl
    rw [List.nil_append] at hloop
    have hpos : (w :: t).length * 32 > 0 := Nat.mul_pos (Nat.succ_pos _) (by decide)
    simp only [hf, hpos, if_true, Nat.mul_mod_left, ne_eq, not_true_eq_false, if_false,
      Nat.mul_div_cancel _ (show 0 < 32 by decide), hloop]

theorem build_parse_transaction_challenge (O : Oracle) (v : UInt8) (h cs : Bytes) (mask : Nat) (txs : List Bytes)
    (hh : h.length = 32) (hcs : cs.length = 64) (hm : mask < 2 ^ 64) (hn : txs.length ≤ 255)
    (hk : ∀ t ∈ txs, O.tx t = true) (hl : ∀ t ∈ txs, t.length < 2 ^ 32) :
    ∃ b, buildTransactionChallenge h cs mask txs = some b ∧
      parse O v b = .ok { type := tTransactionChallenge, version := v, snapshotHash := h, cosiSig := cs,
                          cosiMask := mask, transactions := txs } := by
  obtain ⟨pl, h1, h2, h3⟩ := payload_roundtrip O txs hn hk hl
  refine ⟨tTransactionChallenge :: (h ++ (cs ++ (beBytes 8 mask ++ pl))),
    by simp only [buildTransactionChallenge, h1], ?_⟩
  have hlen : ¬ (h ++ (cs ++ (beBytes 8 mask ++ pl))).length < 105 := by
    simp only [List.length_append, hh, hcs, length_beBytes]; omega
  simp only [parse_cons, dispatch_txc, parseTransactionChallenge,
    sliceFrom_cons, sliceFrom_zero, sliceFrom_append, slice_cons, slice_append, slice_prefix, copyN_append,
    hh, hcs, length_beBytes, beNat_beBytes_of_lt (n := 8) hm, hlen, h3, Nat.le_refl, Nat.reduceLeDiff, Nat.reduceSub,
    if_false]

theorem build_parse_full_challenge (O : Oracle) (v : UInt8) (snap cm ch : Bytes) (txs : List Bytes)
    (info : SnapInfo) (csig : Bytes) (cmask : Nat) (b : Bytes)
    (hb : buildFullChallenge snap cm ch txs = some b)
    (hsize : 257 ≤ b.length) (hsn : snap.length < 2 ^ 32)
    (hs : O.snap snap = some info) (hc : info.cosi = some (csig, cmask))
    (hcm : cm.length = 32) (hch : ch.length = 32) (hk1 : O.checkKey cm = true) (hk2 : O.checkKey ch = true)
    (hk : ∀ t ∈ txs, O.tx t = true) (hl : ∀ t ∈ txs, t.length < 2 ^ 32) :
    parse O v b = .ok { type := tFullChallenge, version := v, snapshot := some { body := info.body, cosi := none },
                        cosiSig := csig, cosiMask := cmask, commitment := cm, challenge := ch,
                        transactions := txs } := by
  have hn : txs.length ≤ 255 := Nat.le_of_not_lt fun hn => by
    simp [buildFullChallenge, payload_build_panics txs hn] at hb
  obtain ⟨pl, h1, h2, h3⟩ := payload_roundtrip O txs hn hk hl
  simp only [buildFullChallenge, h1, Option.some.injEq] at hb
  subst hb
  have hb4 : (beBytes 4 snap.length).length = 4 := length_beBytes _ _
  have hv : beNat (beBytes 4 snap.length) = snap.length := beNat_beBytes_of_lt (n := 4) hsn
  generalize beBytes 4 snap.length = szb at *
  have hlen : ¬ (szb ++ (snap ++ (cm ++ (ch ++ pl)))).length < 256 := by
    simp only [List.length_cons, List.length_append, hb4, hcm, hch] at hsize ⊢; omega
  have hlen2 : ¬ (snap ++ (cm ++ (ch ++ pl))).length < snap.length := by rw [List.length_append]; omega
  have hlen3 : ¬ (cm ++ (ch ++ pl)).length < 65 := by simp only [List.length_append, hcm, hch]; omega
  -- the offsets past the snapshot are symbolic (`5 + size + …`): they are re-based at `data[5+size:]`,
  -- which is `cm ++ (ch ++ pl)`, and read there at 0, 32 and 64
  simp only [parse_cons, dispatch_full, parseFullChallenge,
    sliceFrom_cons, sliceFrom_zero, sliceFrom_append, slice_cons, slice_append, slice_prefix, copyN_exact,
    slice_add_left, slice_add, sliceFrom_add, Option.bind_some,
    hb4, hv, hlen, hlen2, hlen3, hs, hc, hcm, hch, hk1, hk2, h3,
    Nat.le_refl, Nat.sub_self, Nat.reduceLeDiff, Nat.reduceSub, if_false, Bool.not_true, Bool.false_eq_true]

def WellFormedPoint (p : SyncPoint) : Prop := p.nodeId.length = 32 ∧ p.hash.length = 32 ∧ p.number < 2 ^ 64

theorem points_roundtrip (points : List SyncPoint) (hn : points.length ≤ 65535)
    (hp : ∀ p ∈ points, WellFormedPoint p) :
    ∃ d, marshalSyncPoints points = some d ∧ 6 ≤ d.length ∧ unmarshalSyncPoints d = .ok points := by
  have hb : (beBytes 2 points.length).length = 2 := length_beBytes _ _
  have hv : beNat (beBytes 2 points.length) = points.length := beNat_beBytes_of_lt (n := 2) (by omega)
  have hh : minimumHeader.length = 4 := rfl
  have hl : 6 ≤ (minimumHeader ++ (beBytes 2 points.length ++ (points.map encodePoint).flatten)).length := by
    simp only [List.length_append, hh, hb]; omega
  have hc : ¬ points.length > maximumEncodingInt := Nat.not_lt.2 hn
  refine ⟨_, if_neg hc, hl, ?_⟩
  have hr := readPoints_flatten points [] hp
  rw [List.append_nil] at hr
  simp only [unmarshalSyncPoints, Nat.not_lt.2 (Nat.le_trans (by decide : 4 ≤ 6) hl), slice_prefix _ hh,
    sliceFrom_at _ hh, readN_append _ hb, hv, hc, hr, ne_eq, not_true_eq_false, if_false]

theorem build_parse_graph (O : Oracle) (v : UInt8) (sig : Bytes) (points : List SyncPoint)
    (hsig : sig.length = 64) (hn : points.length ≤ 65535) (hp : ∀ p ∈ points, WellFormedPoint p) :
    ∃ b d, buildGraph sig points = some b ∧ marshalSyncPoints points = some d ∧
      parse O v b = .ok { type := tGraph, version := v, graph := points, signature := some sig, unsigned := d } := by
  obtain ⟨d, hm, hd, hu⟩ := points_roundtrip points hn hp
  refine ⟨tGraph :: (sig ++ d), d, by simp only [buildGraph, hm], hm, ?_⟩
  have hlen : ¬ (tGraph :: (sig ++ d)).length < 71 := by
    simp only [List.length_cons, List.length_append, hsig]; omega
  simp only [parse_cons, dispatch_graph, parseGraph, hlen, sliceFrom_cons, sliceFrom_zero, sliceFrom_append,
    copyN_append, hsig, hu, Nat.le_refl, Nat.reduceSub, if_false]

theorem build_parse_pre_commitments (O : Oracle) (v : UInt8) (sig : Bytes) (keys : List Bytes)
    (hsig : sig.length = 64) (h1 : 1 ≤ keys.length) (hn : keys.length ≤ 1024)
    (h32 : ∀ k ∈ keys, k.length = 32) (hk : ∀ k ∈ keys, O.checkKey k = true) :
    ∃ b, buildCommitments sig keys = some b ∧
      parse O v b = .ok { type := tPreCommitments, version := v, commitments := keys, signature := some sig,
                          unsigned := beBytes 2 keys.length ++ keys.flatten } := by
  refine ⟨tPreCommitments :: (sig ++ (beBytes 2 keys.length ++ keys.flatten)), if_neg (Nat.not_lt.2 hn), ?_⟩
  have hf := length_flatten_of_length_eq keys h32
  have hv : beNat (beBytes 2 keys.length) = keys.length := beNat_beBytes_of_lt (n := 2) (by omega)
  have hlen : ¬ (tPreCommitments :: (sig ++ (beBytes 2 keys.length ++ keys.flatten))).length < 80 := by
    simp only [List.length_cons, List.length_append, hsig, length_beBytes, hf]; omega
  have hloop := preCommitLoop_flatten O keys h32 hk (tPreCommitments :: (sig ++ beBytes 2 keys.length)) 0
    (by simp only [List.length_cons, List.length_append, hsig, length_beBytes]) (by omega)
  rw [List.cons_append, List.append_assoc] at hloop
  simp only [parse_cons, dispatch_pre, parsePreCommitments, hlen,
    sliceFrom_cons, sliceFrom_zero, sliceFrom_append, slice_cons, slice_append, slice_prefix, copyN_exact,
    hsig, length_beBytes, hv, hf, hloop, Nat.le_refl, Nat.reduceLeDiff, Nat.reduceSub, Nat.not_lt.2 hn, ne_eq,
    not_true_eq_false, if_false]

/-- The builder accepts an empty list, the parser does not: a 67-byte pre-commitments message is
    below the parser's 80-byte minimum.  The node never sends one (`cosiPrepareRandomsAndSendCommitments`
    always sends 512 commitments), so this is a documented quirk and not a finding. -/
theorem build_parse_pre_commitments_empty_rejected (O : Oracle) (v : UInt8) (sig : Bytes) (hsig : sig.length = 64) :
    ∃ b, buildCommitments sig [] = some b ∧ parse O v b = .reject := by
  refine ⟨tPreCommitments :: (sig ++ (beBytes 2 0 ++ [])), rfl, ?_⟩
  have h67 : (tPreCommitments :: (sig ++ (beBytes 2 0 ++ []))).length = 67 := by
    simp only [List.length_cons, List.length_append, List.length_nil, hsig, length_beBytes]
  rw [parse_cons, dispatch_pre, parsePreCommitments, if_pos (by rw [h67]; decide)]

/-! ## points that must be valid curve points are checked at parse time -/

theorem points_checked_announcement (O : Oracle) (v : UInt8) (rest : Bytes) (m : Msg)
    (h : parse O v (tAnnouncement :: rest) = .ok m) : O.checkKey m.commitment = true := by
  rw [parse_cons, dispatch_ann] at h
  exact ((parseAnnouncement_safe O _ _ (Nat.le_add_left 1 _)).of_ok h).2

theorem points_checked_commitment (O : Oracle) (v : UInt8) (rest : Bytes) (m : Msg)
    (h : parse O v (tCommitment :: rest) = .ok m) : O.checkKey m.commitment = true := by
  rw [parse_cons, dispatch_commitment] at h
  exact ((parseCommitment_safe O _ _ (Nat.le_add_left 1 _)).of_ok h).2

theorem points_checked_full_challenge (O : Oracle) (v : UInt8) (rest : Bytes) (m : Msg)
    (h : parse O v (tFullChallenge :: rest) = .ok m) :
    O.checkKey m.commitment = true ∧ O.checkKey m.challenge = true := by
  rw [parse_cons, dispatch_full] at h
  exact ((parseFullChallenge_safe O _ _ (Nat.le_add_left 1 _)).of_ok h).2

theorem points_checked_pre_commitments (O : Oracle) (v : UInt8) (rest : Bytes) (m : Msg)
    (h : parse O v (tPreCommitments :: rest) = .ok m) : ∀ k ∈ m.commitments, O.checkKey k = true := by
  rw [parse_cons, dispatch_pre] at h
  exact ((parsePreCommitments_safe O _ _).of_ok h).2

/-- all of the above keyed by the type of the *parsed* message -/
theorem points_checked (O : Oracle) (v : UInt8) (b : Bytes) (m : Msg) (h : parse O v b = .ok m) :
    (m.type = tAnnouncement ∨ m.type = tCommitment → O.checkKey m.commitment = true) ∧
    (m.type = tFullChallenge → O.checkKey m.commitment = true ∧ O.checkKey m.challenge = true) ∧
    (m.type = tPreCommitments → ∀ k ∈ m.commitments, O.checkKey k = true) := by
  cases b with
  | nil => cases h
  | cons t rest =>
    rw [(parse_type O v t rest m h).1]
    refine ⟨?_, ?_, ?_⟩
    · rintro (rfl | rfl)
      · exact points_checked_announcement O v rest m h
      · exact points_checked_commitment O v rest m h
    · rintro rfl; exact points_checked_full_challenge O v rest m h
    · rintro rfl; exact points_checked_pre_commitments O v rest m h

/-- a commitment point that fails `CheckKey` makes the announcement an error, whatever follows -/
theorem announcement_invalid_point_rejected (O : Oracle) (v : UInt8) (sig R snap : Bytes)
    (hsig : sig.length = 64) (hR : R.length = 32) (hk : O.checkKey R = false) :
    parse O v (buildAnnouncement sig R snap) = .reject := by
  simp only [buildAnnouncement, parse_cons, dispatch_ann, parseAnnouncement,
    sliceFrom_cons, sliceFrom_zero, sliceFrom_append, slice_cons, slice_prefix, copyN_append,
    hsig, hR, hk, Nat.le_refl, Nat.reduceLeDiff, Nat.reduceSub, Bool.not_false, if_true, ite_self]

/-! ## the defect repaired by the `fix:` commit in p2p/handle.go

Before the fix the transaction slice of `parseTransactionsPayload` was `data[4 : 4+size]` with
`size` a `uint32`: the sum wraps.  For a declared size within 4 of 2^32 that is really present
(the length test `len(data[4:]) < int(size)` passes) the upper bound wraps below 4 and the slice
expression panics.  The model above follows the repaired code (`4+int(size)`); the witness is
replayed on the real code by the harness op `huge` (property mode, key `C08:parse-panics-4gib`). -/

theorem uint32_slice_bound_counterexample (data : Bytes) (size : Nat)
    (h1 : 2 ^ 32 - 4 ≤ size) (h2 : size < 2 ^ 32) :
    slice data 4 ((4 + size) % 2 ^ 32) = none :=
  if_neg fun hc => by omega

/-- the statement in the form the transport gives it: any message of at most
    `TransportMessageMaxSize` bytes (in fact any byte string at all) -/
theorem parse_total_transport (O : Oracle) (v : UInt8) (b : Bytes)
    (_ : b.length ≤ Mixin.Facts.Gen.p2p_TransportMessageMaxSize) : parse O v b ≠ .panic :=
  parse_total O v b

def oracleAll : Oracle := { checkKey := fun _ => true, tx := fun _ => true, snap := fun _ => some ⟨[1], some (zeros 64, 1)⟩ }
def oracleNone : Oracle := { checkKey := fun _ => false, tx := fun _ => false, snap := fun _ => none }

-- the hypotheses of the round-trip theorems are satisfiable, and the model accepts real shapes
example : parse oracleAll 2 (buildSnapshotConfirm (zeros 32)) =
    .ok { type := tSnapshotConfirm, version := 2, snapshotHash := zeros 32 } :=
  build_parse_confirm oracleAll 2 (zeros 32) (by decide)
example : parse oracleAll 2 (buildAnnouncement (zeros 64) (zeros 32) (zeros 4)) =
    .ok { type := tAnnouncement, version := 2, commitment := zeros 32, snapshot := some ⟨[1], some (zeros 64, 1)⟩,
          signature := some (zeros 64) } :=
  build_parse_announcement oracleAll 2 _ _ _ _ (by decide) (by decide) rfl rfl (by decide)
example : parse oracleNone 2 (buildAnnouncement (zeros 64) (zeros 32) (zeros 4)) = .reject :=
  announcement_invalid_point_rejected oracleNone 2 _ _ _ (by decide) (by decide) rfl
example : ∃ b, buildCommitments (zeros 64) [zeros 32, zeros 32] = some b ∧
    parse oracleAll 7 b =
      .ok { type := tPreCommitments, version := 7, commitments := [zeros 32, zeros 32],
            signature := some (zeros 64), unsigned := beBytes 2 2 ++ [zeros 32, zeros 32].flatten } :=
  build_parse_pre_commitments oracleAll 7 _ _ (by decide) (by decide) (by decide) (by decide) (by intros; rfl)
example : ∃ b, buildTransactions [[1, 2, 3], []] tTransactionBundle = some b ∧
    parse oracleAll 2 b = .ok { type := tTransactionBundle, version := 2, transactions := [[1, 2, 3], []] } :=
  build_parse_bundle oracleAll 2 _ _ (Or.inl rfl) (by decide) (by intros; rfl) (by decide)
example : parse oracleAll 2 [] = .reject := rfl
example : parse oracleAll 2 [1] = .ok { type := 1, version := 2 } := by decide
example : parse oracleAll 2 [1, 0] = .reject := by decide
example : parse oracleAll 9 [77, 1, 2] = .ok { type := 77, version := 9 } := by decide

/-! ## the transport in front of the parser (`p2p/quic.go`): whole frames arrive as built, a frame
whose sender stops in the middle is an error and never a shorter message -/

section Wire
open Mixin.PeerWire
open Mixin.Batch (frame receive receiveA be32 ofBe32 maxSize frameVersion Recv)

/-- the bytes `Send` writes for a message of 1..max bytes -/
def frameBytes (d : Bytes) : Bytes := frameVersion.toUInt8 :: 0 :: be32 d.length ++ d

theorem sendFrame_eq (d : Bytes) (h1 : 1 ≤ d.length) (h2 : d.length ≤ maxSize) :
    sendFrame d = some (frameBytes d) :=
  C31.frame_of_size frameVersion h1 h2

theorem frameBytes_length (d : Bytes) : (frameBytes d).length = 6 + d.length := by
  simp only [frameBytes, List.length_append, List.length_cons, C31.be32_length, Nat.add_comm]

theorem receive_short_header (s : Bytes) (h : s.length < 6) : receiveFrame s = .shortHeader := by
  have hpos := Facts.ExpectedC31.max_pos
  unfold receiveFrame receive receiveA
  rw [if_neg (by simp only [Bool.or_eq_true, decide_eq_true_eq]; omega)]
  split
  · simp only [List.length_cons] at h; omega
  · rfl

theorem receive_body (d body : Bytes) (h2 : d.length ≤ maxSize) :
    receiveFrame (frameVersion.toUInt8 :: 0 :: be32 d.length ++ body) =
      if body.length < d.length then .shortBody d.length else .ok (body.take d.length) (body.drop d.length) :=
  C31.receive_header maxSize frameVersion maxSize d.length body Facts.ExpectedC31.max_fits_u32
    Facts.ExpectedC31.version_fits_byte Facts.ExpectedC31.max_pos h2 (Nat.le_refl _)

/-- **A truncated frame is never a message.**  If the stream ends after any strict prefix of
    the frame of `d`, `Receive` returns an error: "short header" below 6 bytes, "short body"
    from there on.  In particular it never returns a shorter message. -/
theorem receive_truncated_rejected (d : Bytes) (h2 : d.length ≤ maxSize) (k : Nat)
    (hk : k < (frameBytes d).length) :
    receiveFrame ((frameBytes d).take k) = if k < 6 then .shortHeader else .shortBody d.length := by
  rw [frameBytes_length] at hk
  split
  · exact receive_short_header _ (by rw [List.length_take]; omega)
  · obtain ⟨j, rfl⟩ : ∃ j, k = 6 + j := ⟨k - 6, by omega⟩
    have e : (frameBytes d).take (6 + j) = frameVersion.toUInt8 :: 0 :: be32 d.length ++ d.take j :=
      List.take_length_add_append (l₁ := frameVersion.toUInt8 :: 0 :: be32 d.length) j
    rw [e, receive_body d (d.take j) h2, if_pos (by rw [List.length_take]; omega)]

theorem receive_truncated_never_ok (d : Bytes) (h2 : d.length ≤ maxSize) (k : Nat)
    (hk : k < (frameBytes d).length) (d' rest : Bytes) :
    receiveFrame ((frameBytes d).take k) ≠ .ok d' rest := by
  rw [receive_truncated_rejected d h2 k hk]
  split <;> simp

/-- `receiveParse` through a `Receive` result (stated for an opaque stream, so that nothing ever
    evaluates the framing function against the 32 MiB constant) -/
theorem receiveParse_of_ok (O : Oracle) (s d r : Bytes) (h : receiveFrame s = .ok d r) :
    receiveParse O s = parse O (UInt8.ofNat frameVersion) d := by
  unfold receiveParse; rw [h]

theorem receiveParse_of_not_ok (O : Oracle) (s : Bytes) (h : ∀ d r, receiveFrame s ≠ .ok d r) :
    receiveParse O s = .reject := by
  unfold receiveParse
  split
  · next e => exact absurd e (h _ _)
  · rfl

/-- a truncated frame reaches the parser as an error, whatever the oracle -/
theorem truncated_never_parsed (O : Oracle) (d : Bytes) (h2 : d.length ≤ maxSize) (k : Nat)
    (hk : k < (frameBytes d).length) : receiveParse O ((frameBytes d).take k) = .reject :=
  receiveParse_of_not_ok O _ (receive_truncated_never_ok d h2 k hk)

/-- whole frames: `Receive` returns exactly the message and leaves the rest of the stream -/
theorem send_receive (d rest : Bytes) (h2 : d.length ≤ maxSize) :
    receiveFrame (frameBytes d ++ rest) = .ok d rest := by
  unfold frameBytes
  rw [List.append_assoc, receive_body d (d ++ rest) h2, if_neg (by simp), List.take_left, List.drop_left]

/-- **Send → Receive → parse.**  Whatever parses directly parses identically after a trip through
    the transport (with the version byte `Send` writes); with the `build_parse_*` theorems: every
    message the node builds and sends arrives as the same type and field values. -/
theorem send_receive_parse (O : Oracle) (d rest : Bytes) (m : Msg) (h1 : 1 ≤ d.length) (h2 : d.length ≤ maxSize)
    (hp : parse O (UInt8.ofNat frameVersion) d = .ok m) :
    ∃ f, sendFrame d = some f ∧ receiveParse O (f ++ rest) = .ok m := by
  refine ⟨frameBytes d, sendFrame_eq d h1 h2, ?_⟩
  exact (receiveParse_of_ok O _ d rest (send_receive d rest h2)).trans hp

/-- instance: a commitment with any list of wanted hashes, end to end -/
theorem send_receive_parse_commitment (O : Oracle) (sig h R : Bytes) (ws : List Bytes) (rest : Bytes)
    (hsig : sig.length = 64) (hh : h.length = 32) (hR : R.length = 32) (hk : O.checkKey R = true)
    (hw : ∀ w ∈ ws, w.length = 32) (hmax : (buildCommitment sig h R ws).length ≤ maxSize) :
    ∃ f, sendFrame (buildCommitment sig h R ws) = some f ∧
      receiveParse O (f ++ rest) =
        .ok { type := tCommitment, version := UInt8.ofNat frameVersion, snapshotHash := h, commitment := R,
              wantTxs := ws, signature := some sig, unsigned := h ++ (R ++ ws.flatten) } :=
  send_receive_parse O _ rest _ (by simp [buildCommitment]) hmax
    (build_parse_commitment O _ sig h R ws hsig hh hR hk hw)

/-- and cut anywhere — for instance between two wanted hashes, where the cut bytes alone would be
    a well-formed commitment with fewer hashes — it is an error -/
theorem truncated_commitment_rejected (O : Oracle) (sig h R : Bytes) (ws : List Bytes) (k : Nat)
    (hmax : (buildCommitment sig h R ws).length ≤ maxSize)
    (hk : k < (frameBytes (buildCommitment sig h R ws)).length) :
    receiveParse O ((frameBytes (buildCommitment sig h R ws)).take k) = .reject :=
  truncated_never_parsed O _ hmax k hk

-- non-vacuity: a 3-byte message cut after 8 of its 9 frame bytes is "short body", whole it arrives
example : receiveFrame ((frameBytes [5, 1, 2]).take 8) = .shortBody 3 :=
  receive_truncated_rejected [5, 1, 2] (by decide) 8 (by decide)
example : receiveFrame (frameBytes [5, 1, 2] ++ [9]) = .ok [5, 1, 2] [9] := send_receive [5, 1, 2] [9] (by decide)
example : frameBytes [5, 1, 2] = [2, 0, 0, 0, 0, 3, 5, 1, 2] := by decide

end Wire

end Mixin.C08
