import Mixin.Model.Election
import Mixin.Facts.ExpectedC29
import Mixin.Props.C25
/-!
# C29 — operator election is deterministic and never selects the node it removes

Theorems about `Mixin.Model.Election` (model of kernel/election.go, kernel/slash.go and the
hour gate of kernel/custodian.go).
-/
namespace Mixin.C29
open Mixin.Election

/-- The elected id is a function of the accepted-node list at that time and of the day index. -/
theorem elect_function (h1 h2 : List Rec) (epoch op now now' : Nat)
    (hl : nodesList h1 now true = nodesList h2 now' true) (hd : electDay epoch now = electDay epoch now') :
    elect h1 epoch op now = elect h2 epoch op now' := by
  unfold elect
  rw [hl, hd]

theorem inner_length (l : List Rec) : (inner l).length = l.length - 2 := by
  unfold inner
  rw [List.length_take, List.length_drop]; omega

/-- No out-of-range index: for every timestamp (also below the epoch, where the `uint64`
    subtraction wraps) and every elected operation code, with at least the minimum number of
    accepted nodes the election returns a node of `accepted[1 : len-1]`. -/
theorem elect_index_in_range (hist : List Rec) (epoch op now : Nat) (hop : electOps.contains op = true)
    (hn : minNodes ≤ (nodesList hist now true).length) :
    ∃ r ∈ inner (nodesList hist now true), elect hist epoch op now = .id r.id := by
  have h3 := Mixin.Facts.ExpectedC29.min_nodes
  have hlen := inner_length (nodesList hist now true)
  have hidx : (electDay epoch now + op) % (inner (nodesList hist now true)).length <
      (inner (nodesList hist now true)).length := Nat.mod_lt _ (by omega)
  refine ⟨_, List.getElem_mem hidx, ?_⟩
  unfold elect
  simp only [hop, Bool.not_true, Bool.false_eq_true, if_false]
  rw [if_neg (by omega), List.getElem?_eq_getElem hidx]

/-- Operations that are not elected for get the zero id. -/
theorem elect_other_ops (hist : List Rec) (epoch op now : Nat) (hop : electOps.contains op = false) :
    elect hist epoch op now = .zero := by
  unfold elect; rw [hop]; rfl

theorem elect_id_mem {hist : List Rec} {epoch op now x : Nat} (h : elect hist epoch op now = .id x) :
    ∃ r ∈ inner (nodesList hist now true), r.id = x := by
  unfold elect at h
  split at h
  · cases h
  · simp only at h
    split at h
    · cases h
    · split at h
      · next r hr =>
        cases h
        exact ⟨r, List.mem_of_getElem? hr, rfl⟩
      · cases h

theorem mem_inner_dropLast {l : List Rec} {r : Rec} (h : r ∈ inner l) : r ∈ l.dropLast := by
  have h : r ∈ (l.take (l.length - 1)).drop 1 := by rw [List.drop_take]; exact h
  rw [List.dropLast_eq_take]
  exact List.mem_of_mem_drop h

theorem latest_step_nodup (acc : List Rec) (r : Rec) (h : (acc.map (·.id)).Nodup) :
    (((acc.filter (fun x => x.id != r.id)) ++ [r]).map (·.id)).Nodup := by
  rw [List.map_append, List.nodup_append]
  refine ⟨(List.filter_sublist.map _).nodup h, by simp, ?_⟩
  intro a ha b hb
  simp only [List.map_cons, List.map_nil, List.mem_singleton] at hb
  obtain ⟨x, hx, rfl⟩ := List.mem_map.mp ha
  have := (List.mem_filter.mp hx).2
  subst hb
  simpa using this

theorem latest_nodup (recs : List Rec) : ((latest recs).map (·.id)).Nodup := by
  unfold latest
  suffices ∀ (acc : List Rec), (acc.map (·.id)).Nodup →
      ((recs.foldl (fun acc r => acc.filter (fun x => x.id != r.id) ++ [r]) acc).map (·.id)).Nodup from
    this [] (by simp)
  induction recs with
  | nil => intro acc h; exact h
  | cons r rs ih => intro acc h; exact ih _ (latest_step_nodup acc r h)

theorem insertRec_perm (r : Rec) : ∀ (l : List Rec), (insertRec r l).Perm (r :: l)
  | [] => List.Perm.refl _
  | x :: xs => by
    unfold insertRec
    split
    · exact List.Perm.refl _
    · exact ((insertRec_perm r xs).cons x).trans (List.Perm.swap r x xs)

theorem sortRecs_perm : ∀ (l : List Rec), (sortRecs l).Perm l
  | [] => List.Perm.refl _
  | x :: xs => by
    unfold sortRecs
    exact (insertRec_perm x _).trans ((sortRecs_perm xs).cons x)

theorem nodeSeq_nodup (hist : List Rec) (t : Nat) (ao : Bool) : ((nodeSeq hist t ao).map (·.id)).Nodup := by
  unfold nodeSeq
  have hp := (sortRecs_perm ((latest (hist.takeWhile (fun r => r.ts < t))).filter
    (fun r => !ao || r.state == .accepted))).map (·.id)
  rw [hp.nodup_iff]
  exact (List.filter_sublist.map _).nodup (latest_nodup _)

/-- Every node list the kernel works with has pairwise distinct node ids. -/
theorem nodesList_nodup (hist : List Rec) (t : Nat) (ao : Bool) : ((nodesList hist t ao).map (·.id)).Nodup := by
  unfold nodesList
  split
  · simp
  · exact nodeSeq_nodup _ _ _

/-- The elected node is never the oldest and never the newest accepted node. -/
theorem elect_not_extremes {hist : List Rec} {epoch op now x : Nat} (h : elect hist epoch op now = .id x) :
    (∀ a, (nodesList hist now true).head? = some a → x ≠ a.id) ∧
    (∀ z, (nodesList hist now true).getLast? = some z → x ≠ z.id) := by
  obtain ⟨r, hr, rfl⟩ := elect_id_mem h
  have hnd := nodesList_nodup hist now true
  generalize nodesList hist now true = l at hr hnd
  constructor
  · intro a ha
    cases l with
    | nil => cases ha
    | cons b t =>
      simp only [List.head?_cons, Option.some.injEq] at ha
      subst ha
      have hrt : r ∈ t := List.mem_of_mem_take hr
      rw [List.map_cons, List.nodup_cons] at hnd
      intro heq
      exact hnd.1 (heq ▸ List.mem_map_of_mem hrt)
  · intro z hz
    obtain ⟨ys, rfl⟩ := List.getLast?_eq_some_iff.mp hz
    have hrd := mem_inner_dropLast hr
    rw [List.dropLast_concat] at hrd
    rw [List.map_append, List.nodup_append] at hnd
    intro heq
    exact hnd.2.2 r.id (List.mem_map_of_mem hrd) z.id (by simp) heq

theorem electedIs_pass {hist : List Rec} {epoch op ts proposer : Nat} (hop : electOps.contains op = true)
    (h : electedIs hist epoch op ts proposer = .pass) : elect hist epoch op ts = .id proposer := by
  unfold electedIs at h
  split at h
  · cases h
  · next hz =>
    unfold elect at hz
    rw [hop] at hz
    simp only [Bool.not_true, Bool.false_eq_true, if_false] at hz
    split at hz
    · cases hz
    · split at hz <;> cases hz
  · next x hx =>
    split at h
    · next hxp => rw [hx, hxp]
    · cases h

theorem remove_op_elected : electOps.contains Mixin.Facts.Gen.common_TransactionTypeNodeRemove = true :=
  Mixin.Facts.ExpectedC29.remove_elected.1

theorem pledge_op_elected : electOps.contains Mixin.Facts.Gen.common_TransactionTypeNodePledge = true :=
  Mixin.Facts.ExpectedC29.remove_elected.2.1

theorem mint_op_elected : electOps.contains Mixin.Facts.Gen.common_TransactionTypeMint = true :=
  Mixin.Facts.ExpectedC29.remove_elected.2.2.1

theorem checkRemove_some {hist : List Rec} {epoch p now : Nat} {old : Option Nat} {c : Rec}
    (h : checkRemove hist epoch p now old = some c) :
    pledgingNode hist now = none ∧ epoch ≤ now ∧ acceptHour epoch now = true ∧
    ∃ candi accepted, removeLoop now old (nodesList hist now false) none [] = some (candi, accepted) ∧
      minNodes < accepted.length ∧ (match candi with | some c => some c | none => accepted.head?) = some c ∧
      c.id ≠ p := by
  have hn : (none : Option Rec) ≠ some c := nofun
  unfold checkRemove at h
  simp only [ite_eq_iff_of_ne hn] at h
  obtain ⟨hp, he, hh, h⟩ := h
  split at h
  · cases h
  · next candi accepted hl =>
    obtain ⟨hlen, h⟩ := of_ite_eq h hn
    split at h
    · cases h
    · next c' hc =>
      obtain ⟨hne, h⟩ := of_ite_eq h hn
      cases h
      exact ⟨Option.not_isSome_iff_eq_none.mp hp, Nat.le_of_not_lt he, by simpa using hh, candi, accepted, hl,
        Nat.lt_of_not_le hlen, hc, hne⟩

/-- `checkRemovePossibility` never names the asking node itself, and answers only inside the
    accept window, at or after the epoch, while no node is pledging. -/
theorem elect_not_self_removal {hist : List Rec} {epoch p now : Nat} {old : Option Nat} {c : Rec}
    (h : checkRemove hist epoch p now old = some c) :
    c.id ≠ p ∧ acceptHour epoch now = true ∧ epoch ≤ now ∧ pledgingNode hist now = none :=
  have ⟨hp, he, hh, _, _, _, _, _, hne⟩ := checkRemove_some h
  ⟨hne, hh, he, hp⟩

/-- A removal snapshot is only valid when proposed by the elected node, and the node it removes
    is never that proposer: no node is elected to propose its own removal. -/
theorem removal_proposer_not_removed {hist : List Rec} {epoch ts proposer : Nat} {old : Option Nat} {c : Rec}
    (h : removeBy hist epoch ts proposer old = some c) :
    elect hist epoch Mixin.Facts.Gen.common_TransactionTypeNodeRemove ts = .id proposer ∧ c.id ≠ proposer := by
  unfold removeBy at h
  split at h
  · next hg => exact ⟨electedIs_pass remove_op_elected hg, (elect_not_self_removal h).1⟩
  · cases h

theorem removeLoop_absent {now : Nat} {old : Option Nat} :
    ∀ {l : List Rec} {acc : List Rec} {candi candi' : Option Rec} {acc' : List Rec}, (∀ r ∈ l, old ≠ some r.tx) →
      removeLoop now old l candi acc = some (candi', acc') →
        candi' = candi ∧ acc' = acc ++ l.filter (fun r => r.state == .accepted)
  | [], acc, candi, candi', acc', _, h => by
    rw [removeLoop] at h; cases h; exact ⟨rfl, (List.append_nil _).symm⟩
  | cn :: rest, acc, candi, candi', acc', hall, h => by
    rw [removeLoop, if_neg (hall cn List.mem_cons_self)] at h
    obtain ⟨_, h⟩ := of_ite_eq h nofun
    obtain ⟨_, h⟩ := of_ite_eq h nofun
    have hrest : ∀ r ∈ rest, old ≠ some r.tx := fun r hr => hall r (List.mem_cons_of_mem _ hr)
    cases hs : cn.state <;> rw [hs] at h <;> simp only at h
    · cases h
    all_goals
      obtain ⟨e1, e2⟩ := removeLoop_absent hrest h
      exact ⟨e1, by rw [e2, List.filter_cons, hs]; simp⟩

/-- A removal whose transaction is not yet recorded in the node list (a fresh one: `old = none`)
    removes the oldest accepted node, and more than the minimum number of accepted nodes remain
    listed. -/
theorem removal_candidate_is_oldest {hist : List Rec} {epoch p now : Nat} {old : Option Nat} {c : Rec}
    (hold : ∀ r ∈ nodesList hist now false, old ≠ some r.tx) (h : checkRemove hist epoch p now old = some c) :
    ((nodesList hist now false).filter (fun r => r.state == .accepted)).head? = some c ∧
      minNodes < ((nodesList hist now false).filter (fun r => r.state == .accepted)).length := by
  obtain ⟨_, _, _, candi, accepted, hl, hlen, hc, _⟩ := checkRemove_some h
  obtain ⟨rfl, rfl⟩ := removeLoop_absent hold hl
  exact ⟨hc, hlen⟩

theorem hourOf_lt (epoch ts : Nat) : hourOf epoch ts < 24 := Nat.mod_lt _ (by decide)

/-- `acceptHour` is the hour window that accepts, cancels and removals share -/
theorem accept_window (epoch ts : Nat) :
    acceptHour epoch ts = true ↔ acceptBegin ≤ hourOf epoch ts ∧ hourOf epoch ts ≤ acceptEnd := by
  unfold acceptHour; simp

/-- pledges are valid only outside both the mint window and the accept window -/
theorem pledge_window (epoch ts : Nat) :
    pledgeHour epoch ts = true ↔
      ¬ (mintBegin ≤ hourOf epoch ts ∧ hourOf epoch ts ≤ mintEnd) ∧
      ¬ (acceptBegin ≤ hourOf epoch ts ∧ hourOf epoch ts ≤ acceptEnd) := by
  simp only [pledgeHour, Bool.and_eq_true, Bool.not_eq_true', Bool.and_eq_false_iff, decide_eq_false_iff_not, ge_iff_le,
    Classical.not_and_iff_not_or_not]

theorem pledge_excludes_accept (epoch ts : Nat) (h : pledgeHour epoch ts = true) : acceptHour epoch ts = false := by
  have := (pledge_window epoch ts).mp h
  cases ha : acceptHour epoch ts with
  | false => rfl
  | true => exact absurd ((accept_window epoch ts).mp ha) this.2

/-- a pledge snapshot passes its leading gates only for the elected proposer, at or after the
    epoch, in a pledge hour -/
theorem pledge_gate {hist : List Rec} {epoch ts proposer : Nat} (h : pledgeGate hist epoch ts proposer = .pass) :
    elect hist epoch Mixin.Facts.Gen.common_TransactionTypeNodePledge ts = .id proposer ∧ epoch ≤ ts ∧
      pledgeHour epoch ts = true := by
  unfold pledgeGate at h
  split at h
  · next hg =>
    obtain ⟨he, h⟩ := of_ite_eq h nofun
    obtain ⟨hh, _⟩ := of_ite_eq h nofun
    exact ⟨electedIs_pass pledge_op_elected hg, Nat.le_of_not_lt he, by simpa using hh⟩
  · next hne => exact absurd h hne

/-- a cancel snapshot passes its gates only in the accept window, while a node is pledging,
    between the minimum and the maximum accept period after the pledge -/
theorem cancel_gate {hist : List Rec} {epoch ts : Nat} (h : cancelGate hist epoch ts = .pass) :
    epoch ≤ ts ∧ acceptHour epoch ts = true ∧ ∃ p, pledgingNode hist ts = some p ∧ p.ts ≤ ts ∧
      (acceptPeriodMin : Int) ≤ asInt64 (ts - p.ts) ∧ asInt64 (ts - p.ts) ≤ (acceptPeriodMax : Int) := by
  have hr : Gate.reject ≠ Gate.pass := nofun
  obtain ⟨he, h⟩ := of_ite_eq h hr
  cases hp : pledgingNode hist ts with
  | none => rw [hp] at h; cases h
  | some p =>
    rw [hp] at h
    simp only [ite_eq_iff_of_ne hr] at h
    obtain ⟨hh, hts, h1, h2, _⟩ := h
    exact ⟨Nat.le_of_not_lt he, by simpa using hh, p, rfl, Nat.le_of_not_lt hts, Int.not_lt.mp h1, Int.not_lt.mp h2⟩

/-- custodian updates pass the hour gate only outside `[mintBegin − 1, mintEnd + 1]` -/
theorem custodian_window {hist : List Rec} {epoch ts proposer : Nat} (h : custodianGate hist epoch ts proposer = .pass) :
    epoch ≤ ts ∧ ((ts - epoch) / hourNs % 24 + 1 < mintBegin ∨ mintEnd + 1 < (ts - epoch) / hourNs % 24) := by
  unfold custodianGate at h
  split at h
  · obtain ⟨he, h⟩ := of_ite_eq h nofun
    obtain ⟨hh, _⟩ := of_ite_eq h nofun
    refine ⟨Nat.le_of_not_lt he, ?_⟩
    simp only [custodianHourOk, Bool.not_not, Bool.and_eq_true, decide_eq_true_eq, ge_iff_le,
      Classical.not_and_iff_not_or_not, Nat.not_le] at hh
    exact hh
  · next hne => exact absurd h hne

theorem usub_of_le {a b : Nat} (hba : b ≤ a) (ha : a < two64) : usub a b = a - b := by
  unfold usub
  rw [Nat.mod_eq_of_lt (Nat.lt_of_le_of_lt hba ha), Nat.add_comm, Nat.add_sub_assoc hba, Nat.add_mod_left,
    Nat.mod_eq_of_lt (Nat.lt_of_le_of_lt (Nat.sub_le _ _) ha)]

theorem hourOf_add {epoch d : Nat} (h : epoch + d < two64) : hourOf epoch (epoch + d) = d / hourNs % 24 := by
  unfold hourOf
  rw [usub_of_le (Nat.le_add_right _ _) h, Nat.add_sub_cancel_left]

/-- hour `a` of day `d`, counted in units of `n` per hour -/
theorem hour_of_day_add (n d a : Nat) (hn : 0 < n) : (d * (24 * n) + a * n) / n % 24 = a % 24 := by
  rw [Nat.add_comm, Nat.mul_comm 24 n, ← Nat.mul_assoc, Nat.mul_right_comm, Nat.add_mul_div_right _ _ hn,
    Nat.mul_div_cancel _ hn, Nat.add_mul_mod_self_right]

/-- the predicted removal instant is the start of the accept window of the day of `now` -/
theorem prepare_is_window_start {now epoch t : Nat} (h : prepareRemovalTime now epoch = some t)
    (hov : epoch + ((now - epoch) / oneDay * oneDay + acceptBegin * hourNs) < two64) :
    epoch ≤ now ∧ t = epoch + ((now - epoch) / oneDay * oneDay + acceptBegin * hourNs) ∧
      hourOf epoch t = acceptBegin ∧ acceptHour epoch t = true := by
  have hn : (none : Option Nat) ≠ some t := nofun
  obtain ⟨he, h⟩ := of_ite_eq h hn
  obtain ⟨_, h⟩ := of_ite_eq h hn
  obtain ⟨_, h⟩ := of_ite_eq h hn
  obtain rfl := Option.some.inj h
  have hw := Mixin.Facts.ExpectedC29.windows_ordered
  have hh : hourOf epoch (epoch + ((now - epoch) / oneDay * oneDay + acceptBegin * hourNs)) = acceptBegin := by
    rw [hourOf_add hov, Mixin.Facts.ExpectedC29.day_is_24h, hour_of_day_add _ _ _ (by decide)]
    exact Nat.mod_eq_of_lt (by omega)
  rw [Nat.mod_eq_of_lt hov]
  exact ⟨Nat.le_of_not_lt he, rfl, hh, (accept_window _ _).mpr (by rw [hh]; omega)⟩

/-- **Every validator uses the snapshot's own timestamp** for any snapshot that carries one, and
    for any snapshot of another node — whatever the local clock shows. (The clock only stands in
    for the proposer's own snapshot before it has a timestamp.) -/
theorem operation_time_is_snapshot_time (self clock snapNode snapTs : Nat) (h : snapTs ≠ 0 ∨ snapNode ≠ self) :
    opTime self clock snapNode snapTs = snapTs :=
  if_neg fun hc => h.elim (· hc.1) (· hc.2)

theorem operation_time_own_unstamped (self clock : Nat) : opTime self clock self 0 = clock := by
  simp [opTime]

/- mints are only possible inside the mint window: `Mixin.C25.mint_window` (model of
   `checkUniversalMintPossibility`) is listed among the theorems of this property, which is why this file imports
   `Mixin.Props.C25` although nothing here uses it. -/

def demoHist : List Rec :=
  (List.range 9).map (fun i => ⟨100 - i, i, 1000, .accepted⟩)

example : elect demoHist 1000 9 (1000 + 5 * 86400000000000 + 14 * 3600000000000) = .id 93 := by decide +kernel
example : (nodesList demoHist 2000 true).map (·.id) = [92, 93, 94, 95, 96, 97, 98, 99, 100] := by decide +kernel
example : (checkRemove demoHist 1000 93 (1000 + 5 * 86400000000000 + 14 * 3600000000000) none).map (·.id) = some 92 := by decide +kernel
example : checkRemove demoHist 1000 92 (1000 + 5 * 86400000000000 + 14 * 3600000000000) none = none := by decide +kernel
example : acceptHour 1000 (1000 + 13 * 3600000000000) = true ∧ acceptHour 1000 (1000 + 20 * 3600000000000) = false := by decide +kernel
example : pledgeGate demoHist 1000 (1000 + 5 * 86400000000000 + 3 * 3600000000000)
    (match elect demoHist 1000 6 (1000 + 5 * 86400000000000 + 3 * 3600000000000) with | .id x => x | _ => 0) = .pass := by decide +kernel
example : prepareRemovalTime (1000 + 5 * 86400000000000 + 14 * 3600000000000) 1000 = some (1000 + 5 * 86400000000000 + 13 * 3600000000000) := by decide +kernel

end Mixin.C29
