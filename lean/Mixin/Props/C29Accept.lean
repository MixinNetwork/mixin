import Mixin.Model.NodeOps
import Mixin.Props.C29
/-!
# C29 at the acceptance level — what every ACCEPTED node-operation snapshot satisfies

`Mixin.NodeOps` models the kernel validators of pledge, cancel, accept and remove snapshots
(kernel/election.go) and the node-operation lock (storage.AddNodeOperation). The theorems say
what acceptance forces; the store reads the validators trust are the fields of `OpsEnv`, the
lock and (for accepts) the `ChainView`.
-/
namespace Mixin.C29
open Mixin.Election Mixin.NodeOps

theorem pledgeLoop_absent {env : OpsEnv} {ts : Nat} {tx : OpTx} : ∀ {l : List Rec} {total : Nat} {b : Bool} {total' : Nat},
    (∀ r ∈ l, r.tx ≠ tx.hash) → pledgeLoop env ts tx l total = some (b, total') →
      b = false ∧
      (∀ r ∈ l, r.state ≠ .pledging ∧ r.ts ≤ ts ∧ (pledgePeriodMin : Int) ≤ asInt64 (usub ts r.ts) ∧
        (keysOf env r.id).signer ≠ tx.key1 ∧ (keysOf env r.id).payee ≠ tx.key1) ∧
      total' = total + (l.filter (fun r => r.state == .accepted)).length
  | [], total, b, total', _, h => by
    rw [pledgeLoop] at h; cases h
    exact ⟨rfl, fun r hr => absurd hr List.not_mem_nil, rfl⟩
  | cn :: rest, total, b, total', hall, h => by
    rw [pledgeLoop, if_neg (hall cn List.mem_cons_self)] at h
    simp only [ite_eq_iff_of_ne (nofun : (none : Option (Bool × Nat)) ≠ some (b, total'))] at h
    obtain ⟨h2, h3, h4, h5, h⟩ := h
    have hrest : ∀ r ∈ rest, r.tx ≠ tx.hash := fun r hr => hall r (List.mem_cons_of_mem _ hr)
    cases hs : cn.state <;> rw [hs] at h <;> simp only at h
    · cases h
    all_goals
      obtain ⟨eb, ih, et⟩ := pledgeLoop_absent hrest h
      refine ⟨eb, List.forall_mem_cons.mpr ⟨⟨by rw [hs]; nofun, Nat.le_of_not_lt h2, Int.not_lt.mp h3, h4, h5⟩, ih⟩, ?_⟩
      rw [et, List.filter_cons, hs]
      simp +arith

/-- the node-operation lock: unfinalized, an operation is admitted only when it repeats the
    newest recorded operation (same kind and transaction) or that one is more than the threshold
    older -/
theorem addNodeOp_unfinalized {lock : Option OpLock} {kind hash ts thr : Nat} {l : Option OpLock}
    (h : addNodeOp lock kind hash ts thr false = some l) :
    ((lock.getD ⟨0, 0, 0⟩).kind = kind ∧ (lock.getD ⟨0, 0, 0⟩).hash = hash ∧ l = lock) ∨
    ((lock.getD ⟨0, 0, 0⟩).ts + thr) % two64 < ts := by
  have key : ∀ (k : OpLock) (w : Option OpLock),
      (if (k.ts + thr) % two64 ≥ ts then
        (if k.kind = kind ∧ k.hash = hash then some lock else if (!false) = true then none else some w)
       else some w) = some l →
      (k.kind = kind ∧ k.hash = hash ∧ l = lock) ∨ (k.ts + thr) % two64 < ts := by
    intro k w hk
    by_cases h1 : (k.ts + thr) % two64 ≥ ts
    · rw [if_pos h1] at hk
      by_cases h2 : k.kind = kind ∧ k.hash = hash
      · rw [if_pos h2] at hk
        exact Or.inl ⟨h2.1, h2.2, (Option.some.inj hk).symm⟩
      · rw [if_neg h2] at hk; simp at hk
    · exact Or.inr (by omega)
  unfold addNodeOp at h
  cases lock with
  | none => exact key ⟨0, 0, 0⟩ _ h
  | some k => exact key k _ h

/-- what `validateNodePledgeSnapshot` has checked when it accepts; the loop answers `true` when the
    pledge is already listed -/
theorem validatePledge_accept {env : OpsEnv} {lock l : Option OpLock} {proposer ts : Nat} {fin : Bool} {tx : OpTx}
    (h : validatePledge env lock proposer ts fin tx = (.accept, l)) :
    pledgeGate env.hist env.epoch ts proposer = .pass ∧ tx.amount = pledgeAmount ∧
    ∃ b total, pledgeLoop env ts tx (nodesList env.hist ((ts + pledgePeriodMin) % two64) false) 0 = some (b, total) ∧
      (b = false → total < maxNodes ∧ addNodeOp lock 1 tx.hash ts (pledgePeriodMin * 2) fin = some l) := by
  unfold validatePledge at h
  cases hg : pledgeGate env.hist env.epoch ts proposer <;> rw [hg] at h
  · cases h
  · simp only at h
    obtain ⟨ha, h⟩ := of_ite_eq h nofun
    refine ⟨rfl, Decidable.not_not.mp ha, ?_⟩
    cases hl : pledgeLoop env ts tx (nodesList env.hist ((ts + pledgePeriodMin) % two64) false) 0 with
    | none => rw [hl] at h; cases h
    | some pr =>
      obtain ⟨b, total⟩ := pr
      refine ⟨b, total, rfl, ?_⟩
      rintro rfl
      rw [hl] at h
      obtain ⟨hmax, h⟩ := of_ite_eq h nofun
      cases hadd : addNodeOp lock 1 tx.hash ts (pledgePeriodMin * 2) fin with
      | none => rw [hadd] at h; cases h
      | some l' => rw [hadd] at h; cases h; exact ⟨Nat.lt_of_not_le hmax, rfl⟩
  · cases h

/-- **An accepted pledge carries exactly the pledge amount**, is proposed by the node elected
    for pledges, at or after the epoch, in an hour outside the mint and accept windows. -/
theorem accepted_pledge_amount_exact {env : OpsEnv} {lock l : Option OpLock} {proposer ts : Nat} {fin : Bool} {tx : OpTx}
    (h : validatePledge env lock proposer ts fin tx = (.accept, l)) :
    tx.amount = pledgeAmount ∧
    elect env.hist env.epoch Mixin.Facts.Gen.common_TransactionTypeNodePledge ts = .id proposer ∧
    env.epoch ≤ ts ∧ pledgeHour env.epoch ts = true ∧ acceptHour env.epoch ts = false :=
  have ⟨hg, ha, _⟩ := validatePledge_accept h
  have ⟨hel, hep, hh⟩ := pledge_gate hg
  ⟨ha, hel, hep, hh, pledge_excludes_accept _ _ hh⟩

/-- **One pledge at a time.** An accepted pledge that is not already recorded finds, among the
    nodes listed up to `ts + PledgePeriodMinimum`: no pledging node, only records at least the
    pledge period old, no node whose signer or payee key equals the new signer key, and fewer
    accepted nodes than the maximum; unfinalized it also respects the node-operation lock. -/
theorem accepted_pledge_one_at_a_time {env : OpsEnv} {lock l : Option OpLock} {proposer ts : Nat} {fin : Bool} {tx : OpTx}
    (h : validatePledge env lock proposer ts fin tx = (.accept, l))
    (hnew : ∀ r ∈ nodesList env.hist ((ts + pledgePeriodMin) % two64) false, r.tx ≠ tx.hash) :
    (∀ r ∈ nodesList env.hist ((ts + pledgePeriodMin) % two64) false,
      r.state ≠ .pledging ∧ r.ts ≤ ts ∧ (pledgePeriodMin : Int) ≤ asInt64 (usub ts r.ts) ∧
      (keysOf env r.id).signer ≠ tx.key1 ∧ (keysOf env r.id).payee ≠ tx.key1) ∧
    ((nodesList env.hist ((ts + pledgePeriodMin) % two64) false).filter (fun r => r.state == .accepted)).length < maxNodes ∧
    addNodeOp lock 1 tx.hash ts (pledgePeriodMin * 2) fin = some l := by
  obtain ⟨_, _, b, total, hl, hb⟩ := validatePledge_accept h
  obtain ⟨rfl, hall, rfl⟩ := pledgeLoop_absent hnew hl
  obtain ⟨hmax, hadd⟩ := hb rfl
  exact ⟨hall, by rwa [Nat.zero_add] at hmax, hadd⟩

/-- **An accepted cancel** lies in the accept window at or after the epoch, while a node is
    pledging, between the minimum and the maximum accept period after that pledge; unfinalized it
    is not stale with respect to the graph and respects the node-operation lock. -/
theorem accepted_cancel_in_period {env : OpsEnv} {lock l : Option OpLock} {ts : Nat} {fin : Bool} {tx : OpTx}
    (h : validateCancel env lock ts fin tx = (.accept, l)) :
    env.epoch ≤ ts ∧ acceptHour env.epoch ts = true ∧
    (∃ p, pledgingNode env.hist ts = some p ∧ p.ts ≤ ts ∧
      (acceptPeriodMin : Int) ≤ asInt64 (ts - p.ts) ∧ asInt64 (ts - p.ts) ≤ (acceptPeriodMax : Int)) ∧
    (fin = false → env.graphTs ≤ (ts + staleGap) % two64) ∧
    addNodeOp lock 2 tx.hash ts (pledgePeriodMin * 2) fin = some l := by
  have hr : (Decision.reject, lock) ≠ (Decision.accept, l) := nofun
  obtain ⟨he, h⟩ := of_ite_eq h hr
  cases hp : pledgingNode env.hist ts with
  | none => rw [hp] at h; cases h
  | some p =>
    rw [hp] at h
    simp only [ite_eq_iff_of_ne hr] at h
    obtain ⟨hh, hst, hts, h1, h2, h⟩ := h
    cases hadd : addNodeOp lock 2 tx.hash ts (pledgePeriodMin * 2) fin with
    | none => rw [hadd] at h; cases h
    | some l' =>
      rw [hadd] at h; cases h
      refine ⟨Nat.le_of_not_lt he, by simpa using hh, ⟨p, rfl, Nat.le_of_not_lt hts, Int.not_lt.mp h1, Int.not_lt.mp h2⟩,
        fun hf => Nat.le_of_not_lt fun hlt => hst ⟨by rw [hf]; rfl, hlt⟩, rfl⟩

/-- **A node accept is only accepted after the accept period**: in round 0, not in the future,
    for the chain of the node that is pledging at `ts`, in the accept window at or after the
    epoch, between the minimum and the maximum accept period after its pledge; the accepted
    transaction spends that node's stored pledge and carries the pledged amount and extra; every
    other payload byte is the kernel's own. -/
theorem accepted_accept_after_period {env : OpsEnv} {chain : ChainView} {round ts canon : Nat} {future fin : Bool} {tx : OpTx}
    (h : validateAccept env chain round ts future fin canon tx = .accept) :
    round = 0 ∧ future = false ∧ chain.hasState = false ∧
    ∃ p ci pledge, pledgingNode env.hist ts = some p ∧ chain.info = some ci ∧ p.id = ci.id ∧
      env.epoch ≤ ts ∧ acceptHour env.epoch ts = true ∧ p.ts ≤ ts ∧
      (acceptPeriodMin : Int) ≤ asInt64 (ts - p.ts) ∧ asInt64 (ts - p.ts) ≤ (acceptPeriodMax : Int) ∧
      (fin = false → env.graphTs ≤ (ts + staleGap) % two64) ∧
      storedOf env ci.tx = some pledge ∧ pledge.extraLen = 64 ∧ (keysOf env ci.id).signer = pledge.key1 ∧
      tx.input = ci.tx ∧ tx.amount = pledge.amount ∧ tx.extra = pledge.extra ∧ tx.rest = canon := by
  have hr : Decision.reject ≠ Decision.accept := nofun
  have hpanic : Decision.panic ≠ Decision.accept := nofun
  unfold validateAccept at h
  simp only [ite_eq_iff_of_ne hr, ite_eq_iff_of_ne hpanic] at h
  obtain ⟨h0, _, hf, hs, h⟩ := h
  cases hp : pledgingNode env.hist ts with
  | none => rw [hp] at h; cases h
  | some p =>
    cases hi : chain.info with
    | none => rw [hp, hi] at h; cases h
    | some ci =>
      rw [hp, hi] at h
      simp only [ite_eq_iff_of_ne hr] at h
      obtain ⟨h1, h2, h3, h4, h5, h6, h7, h⟩ := h
      cases hst : storedOf env ci.tx with
      | none => rw [hst] at h; cases h
      | some pledge =>
        rw [hst] at h
        simp only [ite_eq_iff_of_ne hr] at h
        obtain ⟨h8, h9, h⟩ := h
        by_cases h10 : tx.input = ci.tx ∧ tx.amount = pledge.amount ∧ tx.extra = pledge.extra ∧ tx.rest = canon
        · exact ⟨Decidable.not_not.mp h0, by simpa using hf, by simpa using hs, p, ci, pledge, rfl, rfl,
            Decidable.not_not.mp h1, Nat.le_of_not_lt h2, by simpa using h3, Nat.le_of_not_lt h5, Int.not_lt.mp h6,
            Int.not_lt.mp h7, fun hfin => Nat.le_of_not_lt fun hlt => h4 ⟨by rw [hfin]; rfl, hlt⟩, hst,
            Decidable.not_not.mp h8, Decidable.not_not.mp h9, h10⟩
        · rw [if_neg h10] at h; cases h

theorem latest_subset (recs : List Rec) : ∀ r ∈ latest recs, r ∈ recs := by
  unfold latest
  suffices ∀ (l acc : List Rec), ∀ r ∈ l.foldl (fun acc r => acc.filter (fun x => x.id != r.id) ++ [r]) acc,
      r ∈ acc ∨ r ∈ l from fun r hr => (this recs [] r hr).resolve_left (by simp)
  intro l
  induction l with
  | nil => intro acc r hr; exact Or.inl hr
  | cons x xs ih =>
    intro acc r hr
    rw [List.foldl_cons] at hr
    rcases ih _ r hr with h | h
    · rcases List.mem_append.mp h with h | h
      · exact Or.inl (List.mem_filter.mp h).1
      · exact Or.inr (List.mem_singleton.mp h ▸ List.mem_cons_self)
    · exact Or.inr (List.mem_cons_of_mem _ h)

theorem nodesList_subset (hist : List Rec) (t : Nat) (ao : Bool) : ∀ r ∈ nodesList hist t ao, r ∈ hist := by
  intro r hr
  unfold nodesList at hr
  split at hr
  · cases hr
  · unfold nodeSeq at hr
    have h1 := (sortRecs_perm _).mem_iff.mp hr
    have h2 := (List.mem_filter.mp h1).1
    have h3 := latest_subset _ r h2
    exact (List.takeWhile_sublist _).subset h3

/-- **An accepted fresh removal removes the oldest accepted node, never the proposer.** A
    removal snapshot accepted by the validator whose transaction is not already recorded in the
    node history is proposed by the node elected for removals, inside the accept window at or
    after the epoch while no node is pledging; the node it removes is the oldest accepted node
    (more than the minimum remain listed) and differs from the proposer; the transaction spends
    that node's stored accept transaction and carries its amount and extra; every other payload
    byte is the kernel's own. -/
theorem accepted_removal_is_oldest_and_not_proposer {env : OpsEnv} {proposer ts canon : Nat} {fin : Bool} {tx : OpTx}
    (h : validateRemove env proposer ts fin canon tx = .accept) (hnew : ∀ r ∈ env.hist, r.tx ≠ tx.hash) :
    elect env.hist env.epoch Mixin.Facts.Gen.common_TransactionTypeNodeRemove ts = .id proposer ∧
    ∃ c acc, ((nodesList env.hist ts false).filter (fun r => r.state == .accepted)).head? = some c ∧
      minNodes < ((nodesList env.hist ts false).filter (fun r => r.state == .accepted)).length ∧
      c.id ≠ proposer ∧ acceptHour env.epoch ts = true ∧ env.epoch ≤ ts ∧ pledgingNode env.hist ts = none ∧
      storedOf env c.tx = some acc ∧ tx.input = c.tx ∧ tx.amount = acc.amount ∧ tx.extra = acc.extra ∧ tx.rest = canon := by
  have hr : Decision.reject ≠ Decision.accept := nofun
  unfold validateRemove at h
  cases hg : electedIs env.hist env.epoch Mixin.Facts.Gen.common_TransactionTypeNodeRemove ts proposer <;> rw [hg] at h
  · cases h
  · simp only at h
    have hany : env.hist.any (fun cn => cn.state == .removed && cn.id == tx.signerId && fin && cn.tx == tx.hash) = false :=
      List.any_eq_false.mpr fun r hr => by simp [hnew r hr]
    rw [hany] at h
    cases hc : checkRemove env.hist env.epoch proposer ts (some tx.hash) with
    | none => rw [hc] at h; cases h
    | some c =>
      have hold : ∀ r ∈ nodesList env.hist ts false, some tx.hash ≠ some r.tx :=
        fun r hr e => hnew r (nodesList_subset _ _ _ r hr) (Option.some.inj e).symm
      obtain ⟨hne, hhour, hep, hnp⟩ := elect_not_self_removal hc
      obtain ⟨hhead, hmin⟩ := removal_candidate_is_oldest hold hc
      have hct : c.tx ≠ tx.hash :=
        hnew c (nodesList_subset _ _ _ c (List.mem_filter.mp (List.mem_of_mem_head? hhead)).1)
      rw [hc] at h
      simp only [Bool.false_eq_true, if_false, if_neg hct] at h
      cases hs : storedOf env c.tx with
      | none => rw [hs] at h; cases h
      | some acc =>
        rw [hs] at h
        obtain ⟨_, h⟩ := of_ite_eq h hr
        obtain ⟨_, h⟩ := of_ite_eq h hr
        by_cases hf : tx.input = c.tx ∧ tx.amount = acc.amount ∧ tx.extra = acc.extra ∧ tx.rest = canon
        · exact ⟨electedIs_pass remove_op_elected hg, c, acc, hhead, hmin, hne, hhour, hep, hnp, hs, hf⟩
        · rw [if_neg hf] at h; cases h
  · cases h

/-- An accepted removal (fresh or the re-validation of a recorded one) always comes from the
    node elected for removals at that time. -/
theorem accepted_removal_proposer_elected {env : OpsEnv} {proposer ts canon : Nat} {fin : Bool} {tx : OpTx}
    (h : validateRemove env proposer ts fin canon tx = .accept) :
    elect env.hist env.epoch Mixin.Facts.Gen.common_TransactionTypeNodeRemove ts = .id proposer := by
  unfold validateRemove at h
  cases hg : electedIs env.hist env.epoch Mixin.Facts.Gen.common_TransactionTypeNodeRemove ts proposer with
  | panic => rw [hg] at h; cases h
  | reject => rw [hg] at h; cases h
  | pass => exact electedIs_pass remove_op_elected hg

/-- **Two nodes with different clocks decide alike on the same timestamped snapshot**: every
    node-operation validator (pledge, cancel, accept, remove and the custodian-update gates),
    given the same store reads, returns the same decision (and leaves the same operation lock) on a
    snapshot with a non-zero timestamp, for any two validating nodes and any two clocks —
    including the proposer itself re-validating its own snapshot later. -/
theorem decision_independent_of_clock (self₁ clock₁ self₂ clock₂ snapNode snapTs : Nat) (hts : snapTs ≠ 0)
    (env : OpsEnv) (lock : Option OpLock) (fin : Bool) (tx : OpTx) (chain : ChainView) (round canon : Nat) (future : Bool) :
    validatePledgeSnap self₁ clock₁ env lock snapNode snapTs fin tx = validatePledgeSnap self₂ clock₂ env lock snapNode snapTs fin tx ∧
    validateCancelSnap self₁ clock₁ env lock snapNode snapTs fin tx = validateCancelSnap self₂ clock₂ env lock snapNode snapTs fin tx ∧
    validateAcceptSnap self₁ clock₁ env chain round snapNode snapTs future fin canon tx =
      validateAcceptSnap self₂ clock₂ env chain round snapNode snapTs future fin canon tx ∧
    validateRemoveSnap self₁ clock₁ env snapNode snapTs fin canon tx = validateRemoveSnap self₂ clock₂ env snapNode snapTs fin canon tx ∧
    pledgeGateSnap self₁ clock₁ env.hist env.epoch snapNode snapTs = pledgeGateSnap self₂ clock₂ env.hist env.epoch snapNode snapTs ∧
    custodianGateSnap self₁ clock₁ env.hist env.epoch snapNode snapTs = custodianGateSnap self₂ clock₂ env.hist env.epoch snapNode snapTs := by
  have h1 := operation_time_is_snapshot_time self₁ clock₁ snapNode snapTs (Or.inl hts)
  have h2 := operation_time_is_snapshot_time self₂ clock₂ snapNode snapTs (Or.inl hts)
  unfold validatePledgeSnap validateCancelSnap validateAcceptSnap validateRemoveSnap pledgeGateSnap custodianGateSnap
  rw [h1, h2]
  exact ⟨rfl, rfl, rfl, rfl, rfl, rfl⟩

/-- … and so the acceptance theorems speak about the snapshot's timestamp: e.g. an accepted
    pledge snapshot with a timestamp is in a pledge hour *of that timestamp* and its proposer is
    the node elected *at that timestamp*, on every node. -/
theorem accepted_pledge_snapshot_at_its_timestamp {self clock snapNode snapTs : Nat} (hts : snapTs ≠ 0)
    {env : OpsEnv} {lock l : Option OpLock} {fin : Bool} {tx : OpTx}
    (h : validatePledgeSnap self clock env lock snapNode snapTs fin tx = (.accept, l)) :
    elect env.hist env.epoch Mixin.Facts.Gen.common_TransactionTypeNodePledge snapTs = .id snapNode ∧
    pledgeHour env.epoch snapTs = true ∧ tx.amount = pledgeAmount := by
  unfold validatePledgeSnap at h
  rw [operation_time_is_snapshot_time self clock snapNode snapTs (Or.inl hts)] at h
  obtain ⟨hamount, hel, _, hhour, _⟩ := accepted_pledge_amount_exact h
  exact ⟨hel, hhour, hamount⟩

/-! ## non-vacuity: the model accepts concrete snapshots -/

def opsHist : List Rec := (List.range 9).map (fun i => ⟨100 - i, i, 1000, .accepted⟩)
def opsEnv : OpsEnv :=
  { hist := opsHist, epoch := 1000, keys := [⟨92, 7001, 7002⟩], stored := [⟨8, 555, 66, 64, 7001, 7002⟩], graphTs := 0 }
def tsAt (day hour : Nat) : Nat := 1000 + day * 86400000000000 + hour * 3600000000000
def electedAt (op ts : Nat) : Nat := match elect opsHist 1000 op ts with | .id x => x | _ => 0

example : validatePledge opsEnv none (electedAt 6 (tsAt 5 3)) (tsAt 5 3) false ⟨4242, pledgeAmount, 1, 2, 9001, 3, 4⟩
    = (.accept, some ⟨1, 4242, tsAt 5 3⟩) := by decide +kernel
example : (validatePledge opsEnv none (electedAt 6 (tsAt 5 3)) (tsAt 5 3) false ⟨4242, pledgeAmount + 1, 1, 2, 9001, 3, 4⟩).1
    = .reject := by decide +kernel
/- a second, different pledge one hour later is refused by the lock unless finalized -/
example : (validatePledge opsEnv (some ⟨1, 4242, tsAt 5 3⟩) (electedAt 6 (tsAt 5 4)) (tsAt 5 4) false
    ⟨4343, pledgeAmount, 1, 2, 9002, 3, 4⟩).1 = .reject := by decide +kernel
example : validateRemove opsEnv (electedAt 9 (tsAt 5 14)) (tsAt 5 14) false 77 ⟨4444, 555, 8, 66, 7001, 92, 77⟩ = .accept := by decide +kernel
example : validateRemove opsEnv (electedAt 9 (tsAt 5 14)) (tsAt 5 14) false 77 ⟨4444, 554, 8, 66, 7001, 92, 77⟩ = .reject := by decide +kernel

def pledgingRec (ts : Nat) : Rec := ⟨200, 50, ts, .pledging⟩
def pledgingEnvAt (ts : Nat) : OpsEnv :=
  { hist := opsHist ++ [pledgingRec ts], epoch := 1000, keys := [⟨200, 8001, 8002⟩],
    stored := [⟨50, 555, 67, 64, 8001, 8002⟩], graphTs := 0 }
def pledgingEnv : OpsEnv := pledgingEnvAt (tsAt 4 2)
example : validateAccept pledgingEnv ⟨true, some (pledgingRec (tsAt 4 2)), false⟩ 0 (tsAt 4 14) false false 78
    ⟨4545, 555, 50, 67, 8001, 200, 78⟩ = .accept := by decide +kernel
/- one nanosecond before the minimum accept period -/
example : validateAccept (pledgingEnvAt (tsAt 4 2 + 1)) ⟨true, some (pledgingRec (tsAt 4 2 + 1)), false⟩ 0 (tsAt 4 14) false false 78
    ⟨4545, 555, 50, 67, 8001, 200, 78⟩ = .reject := by decide +kernel
example : (validateCancel pledgingEnv none (tsAt 4 15) false ⟨4646, 1, 50, 67, 8001, 200, 1⟩).1 = .accept := by decide +kernel

/- the proposer's own snapshot without a timestamp is the only case that looks at the clock -/
example : opTime 7 123 7 0 = 123 ∧ opTime 7 123 7 55 = 55 ∧ opTime 7 123 8 0 = 0 := by decide +kernel

end Mixin.C29
