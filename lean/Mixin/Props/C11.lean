import Mixin.Model.CustodianLookup
import Mixin.Proofs.Upsert
import Mixin.Facts.ExpectedC10
/-!
# C11 — historical consensus views depend only on earlier ledger records

`Node.load recs` is `LoadConsensusNodes` on what the store returned; `Node.list` is
`NodesListWithoutState`. All views of `Mixin.Model.Membership` at a timestamp `ts ≤ t` are shown to be
functions of the fixed node data and of `Node.list t'` for `t' ≤ t`; `Node.list t'` does not change
when records with timestamps `≥ t` are added (`list_prefix_stable`).
-/
namespace Mixin.C11
open Mixin.Membership

/-- the scan over pre-built sequences is the direct computation (no hypothesis) -/
theorem scan_build (all : List Rec) (thr : Nat) (acc : Bool) :
    scanSeqs (buildSeqs all acc) thr = nodesList all thr acc :=
  Mixin.Membership.scan_build all thr acc

/-- On a loaded history the Go algorithm (pre-built sequences, reverse scan, map with `break`) is:
    "insert, in `(ts, id)` order, every record with `ts < t` into a map keyed by id; keep what is
    left (optionally only accepted); sort by `(ts, id)`; number the accepted/pledging entries". -/
theorem list_refines_partial (recs : List Rec) (t : Nat) (acc : Bool) :
    scanSeqs (buildSeqs (sortRecs recs) acc) t =
      assignIdx 0 (sortRecs ((((sortRecs recs).filter (fun n => decide (n.ts < t))).foldl upsert []).filter
        (fun n => !acc || n.state == .accepted))) := by
  rw [scan_build, nodesList_sortRecs]

/-- on a loaded history with distinct `(ts, id)` keys, `NodesListWithoutState(t, acc)`
    holds exactly the latest record of every id among the records with `ts < t` (only accepted ones
    when `acc`), in `(ts, id)` order, numbered by `assignIdx` (index = number of accepted/pledging
    entries before the position, `Mixin.Membership.idx_assignIdx`). -/
theorem list_refines (n : Node) (recs : List Rec) (hd : DistinctKeys recs) (t : Nat) (acc : Bool) :
    (∀ r, r ∈ ((n.load recs).list t acc).map (·.rc) ↔
      r ∈ recs ∧ r.ts < t ∧ (acc = true → r.state = .accepted) ∧
      ∀ r' ∈ recs, r'.ts < t → r'.id = r.id → ¬ recLt r r' = true) ∧
    Sorted (((n.load recs).list t acc).map (·.rc)) ∧
    (n.load recs).list t acc = assignIdx 0 (((n.load recs).list t acc).map (·.rc)) := by
  have hsL : Sorted ((sortRecs recs).filter (fun n => decide (n.ts < t))) :=
    List.Pairwise.filter _ (sortRecs_sorted _)
  have hdL : DistinctKeys ((sortRecs recs).filter (fun n => decide (n.ts < t))) :=
    List.Pairwise.filter _ (distinctKeys_perm (sortRecs_perm recs).symm hd)
  show (∀ r, r ∈ (nodesList (sortRecs recs) t acc).map (·.rc) ↔ _) ∧
    Sorted ((nodesList (sortRecs recs) t acc).map (·.rc)) ∧
    nodesList (sortRecs recs) t acc = assignIdx 0 ((nodesList (sortRecs recs) t acc).map (·.rc))
  rw [nodesList_sortRecs, map_rc_assignIdx]
  refine ⟨fun r => ?_, sortRecs_sorted _, rfl⟩
  rw [mem_sortRecs, List.mem_filter, mem_foldl_upsert _ [] List.Pairwise.nil r, lastOf_sorted hsL hdL]
  simp only [List.not_mem_nil, false_and, or_false, List.mem_filter, mem_sortRecs, decide_eq_true_eq,
    and_imp, and_assoc]
  refine and_congr_right fun _ => and_congr_right fun _ => ?_
  rw [and_comm]
  refine and_congr_left fun _ => ?_
  cases acc <;> simp

/-- the scan over pre-built sequences computes the same list (so `list_refines` is about the Go
    algorithm as written) -/
theorem list_refines_scan (n : Node) (recs : List Rec) (t : Nat) (acc : Bool) :
    scanSeqs (buildSeqs (n.load recs).all acc) t = (n.load recs).list t acc :=
  Mixin.Membership.scan_build _ t acc

/-- adding records whose timestamps are `≥ t` (in any store order) does not
    change `NodesListWithoutState(t, ·)`. -/
theorem list_prefix_stable (n : Node) (h later : List Rec) (t : Nat) (acc : Bool)
    (hl : ∀ r ∈ later, t ≤ r.ts) (hd : DistinctKeys (h ++ later)) :
    (n.load (h ++ later)).list t acc = (n.load h).list t acc :=
  nodesList_prefix_stable h later t acc hl hd

/-- the store's iteration order is irrelevant -/
theorem load_order_irrelevant (n : Node) (h h' : List Rec) (hp : h.Perm h') (hd : DistinctKeys h) :
    n.load h = n.load h' := by
  unfold Node.load; rw [sortRecs_canonical hp hd]

/-- two nodes with the same fixed data whose lists agree at every `t' ≤ t` -/
structure AgreeBelow (n n' : Node) (t : Nat) : Prop where
  epoch : n.epoch = n'.epoch
  mainnet : n.mainnet = n'.mainnet
  self : n.self = n'.self
  selfSigner : n.selfSigner = n'.selfSigner
  genesis : n.genesis = n'.genesis
  list : ∀ t', t' ≤ t → ∀ acc, n.list t' acc = n'.list t' acc

theorem agree_of_extend (n : Node) (h later : List Rec) (t : Nat)
    (hl : ∀ r ∈ later, t ≤ r.ts) (hd : DistinctKeys (h ++ later)) :
    AgreeBelow (n.load (h ++ later)) (n.load h) t :=
  ⟨rfl, rfl, rfl, rfl, rfl, fun t' ht' acc =>
    list_prefix_stable n h later t' acc (fun r hr => Nat.le_trans ht' (hl r hr)) hd⟩

theorem AgreeBelow.mono {n n' : Node} {t s : Nat} (h : AgreeBelow n n' t) (hs : s ≤ t) : AgreeBelow n n' s :=
  ⟨h.epoch, h.mainnet, h.self, h.selfSigner, h.genesis, fun t' ht' acc => h.list t' (Nat.le_trans ht' hs) acc⟩

variable {n n' : Node} {t : Nat}

theorem pledging_stable (h : AgreeBelow n n' t) : pledgingNode n t = pledgingNode n' t := by
  unfold pledgingNode; rw [h.list t (Nat.le_refl _) false]

theorem checkRemove_stable (c : Consts) (h : AgreeBelow n n' t) (id : Nat) :
    checkRemovePossibility c n id t = checkRemovePossibility c n' id t := by
  unfold checkRemovePossibility
  rw [pledging_stable h, h.epoch, h.list t (Nat.le_refl _) false]

/-- the start of the node-operation window never lies after a timestamp inside the window: needs only
    that a day is 24 hours -/
theorem acceptHour_start_le {c : Consts} (hday : c.oneDay = 24 * c.hour) (epoch ts : Nat)
    (hh : acceptHour c epoch ts = true) :
    (ts - epoch) / c.oneDay * c.oneDay + c.acceptBegin * c.hour ≤ ts - epoch := by
  simp only [acceptHour, Bool.and_eq_true, decide_eq_true_eq, ge_iff_le] at hh
  -- with `h = (ts - epoch) / hour`: the day starts at hour `h / 24 * 24`, and `h % 24 ≥ acceptBegin`
  have h1 : (ts - epoch) / c.oneDay = (ts - epoch) / c.hour / 24 := by
    rw [hday, Nat.mul_comm, Nat.div_div_eq_div_mul]
  have h2 : ((ts - epoch) / c.hour / 24 * 24 + c.acceptBegin) * c.hour ≤ (ts - epoch) / c.hour * c.hour :=
    Nat.mul_le_mul_right _ (by omega)
  rw [h1, hday, ← Nat.mul_assoc, ← Nat.add_mul]
  exact Nat.le_trans h2 (Nat.div_mul_le_self (ts - epoch) c.hour)

theorem window_start_le (epoch ts : Nat) (he : ¬ ts < epoch) (hh : acceptHour genConsts epoch ts = true) :
    epoch + (ts - epoch) / genConsts.oneDay * genConsts.oneDay + genConsts.acceptBegin * genConsts.hour ≤ ts := by
  have := acceptHour_start_le Mixin.Facts.ExpectedC10.window_ok.1 epoch ts hh
  omega

theorem removing_stable (h : AgreeBelow n n' t) : removingAt genConsts n t = removingAt genConsts n' t := by
  unfold removingAt
  rw [h.epoch]
  by_cases hc : (decide (t < n'.epoch) || !acceptHour genConsts n'.epoch t) = true
  · rw [if_pos hc, if_pos hc]
  · rw [if_neg hc, if_neg hc]
    simp only [Bool.or_eq_true, decide_eq_true_eq, Bool.not_eq_true', not_or, Bool.not_eq_false] at hc
    exact checkRemove_stable genConsts (h.mono (window_start_le n'.epoch t hc.1 hc.2)) 0

theorem removingFor_stable (h : AgreeBelow n n' t) : removingFor genConsts n t = removingFor genConsts n' t := by
  unfold removingFor usePredictive; rw [h.mainnet, removing_stable h]

theorem threshold_stable (h : AgreeBelow n n' t) (final : Bool) :
    consensusThreshold genConsts n t final = consensusThreshold genConsts n' t final := by
  have hc : countedInBase genConsts n = countedInBase genConsts n' := by
    funext rm ts f cn; unfold countedInBase; rw [h.genesis]
  unfold consensusThreshold consensusBase baseNodes
  rw [removingFor_stable h, h.list t (Nat.le_refl _) false, hc]

theorem keys_stable (h : AgreeBelow n n' t) (ch : Chain) (round : Nat) :
    consensusKeys genConsts n ch round t = consensusKeys genConsts n' ch round t := by
  have hc : ∀ cn, consensusReady genConsts n cn t = consensusReady genConsts n' cn t := by
    intro cn; unfold consensusReady; rw [h.genesis]
  unfold consensusKeys consensusNodes readyNodes
  rw [removingFor_stable h, h.list t (Nat.le_refl _) false]
  simp only [hc]

theorem identity_stable (h : AgreeBelow n n' t) (chainId : Nat) :
    loadIdentity n chainId t = loadIdentity n' chainId t := by
  unfold loadIdentity; rw [h.list t (Nat.le_refl _) false, h.self, h.selfSigner]

theorem elect_stable (h : AgreeBelow n n' t) (op : Nat) :
    electSnapshotNode genConsts n op t = electSnapshotNode genConsts n' op t := by
  unfold electSnapshotNode; rw [h.list t (Nat.le_refl _) true, h.epoch]

/-- every view at `t` is unchanged by records with timestamps `≥ t`. -/
theorem views_prefix_stable (n : Node) (h later : List Rec) (t : Nat)
    (hl : ∀ r ∈ later, t ≤ r.ts) (hd : DistinctKeys (h ++ later)) :
    let a := n.load (h ++ later)
    let b := n.load h
    (∀ acc, a.list t acc = b.list t acc) ∧ pledgingNode a t = pledgingNode b t ∧
    removingAt genConsts a t = removingAt genConsts b t ∧
    (∀ final, consensusThreshold genConsts a t final = consensusThreshold genConsts b t final) ∧
    (∀ ch round, consensusKeys genConsts a ch round t = consensusKeys genConsts b ch round t) ∧
    (∀ op, electSnapshotNode genConsts a op t = electSnapshotNode genConsts b op t) ∧
    (∀ id, loadIdentity a id t = loadIdentity b id t) := by
  have hag := agree_of_extend n h later t hl hd
  exact ⟨fun acc => hag.list t (Nat.le_refl _) acc, pledging_stable hag, removing_stable hag,
    threshold_stable hag, keys_stable hag, elect_stable hag, identity_stable hag⟩

/-! ## the node as a state machine: loads and queries in any order

`LoadConsensusNodes` replaces the loaded history; a query returns views and leaves the node as it
is (the Go views keep no memo between calls — a memo that survives a load breaks exactly this). -/

/-- one question: every view at once -/
structure Ask where
  ts : Nat
  acc : Bool
  final : Bool
  ch : Chain
  round : Nat
  op : Nat
  chainId : Nat

/-- list with consensus indexes, pledging node, removal candidate, threshold, signer keys, elected
    operator, chain identity -/
def answer (n : Node) (q : Ask) :
    List CNode × Option CNode × Option CNode × Nat × List (Nat × Nat) × Option Nat × Option CNode :=
  (n.list q.ts q.acc, pledgingNode n q.ts, removingAt genConsts n q.ts,
   consensusThreshold genConsts n q.ts q.final, consensusKeys genConsts n q.ch q.round q.ts,
   electSnapshotNode genConsts n q.op q.ts, loadIdentity n q.chainId q.ts)

inductive Op where
  | load (recs : List Rec)
  | query (q : Ask)

def step (n : Node) : Op → Node
  | .load recs => n.load recs
  | .query _ => n

def runOps (n : Node) (ops : List Op) : Node := ops.foldl step n

def lastLoad (ops : List Op) : Option (List Rec) :=
  ops.foldl (fun cur op => match op with | .load recs => some recs | .query _ => cur) none

theorem load_load (n : Node) (a b : List Rec) : (n.load a).load b = n.load b := rfl

theorem runOps_eq (n : Node) (ops : List Op) :
    runOps n ops = match lastLoad ops with | some recs => n.load recs | none => n := by
  have gen : ∀ (ops : List Op) (cur : Option (List Rec)),
      ops.foldl step (match cur with | some recs => n.load recs | none => n) =
        match ops.foldl (fun cur op => match op with | .load recs => some recs | .query _ => cur) cur with
        | some recs => n.load recs | none => n := by
    intro ops
    induction ops with
    | nil => intro cur; rfl
    | cons op rest ih =>
      intro cur
      cases op with
      | load recs => cases cur <;> exact ih (some recs)
      | query q => exact ih cur
  exact gen ops none

/-- after any interleaving of loads and queries, every view the node
    reports is the pure function of the most recently loaded records — the same as on a fresh node
    loaded with those records and never asked anything before. -/
theorem query_order_irrelevant (n : Node) (ops : List Op) (recs : List Rec) (h : lastLoad ops = some recs)
    (q : Ask) : answer (runOps n ops) q = answer (n.load recs) q := by
  rw [runOps_eq, h]

/-- queries in between do not matter at all: dropping them gives the same node -/
theorem queries_transparent (n : Node) (ops : List Op) :
    runOps n ops = runOps n (ops.filter (fun op => match op with | .load _ => true | .query _ => false)) := by
  induction ops generalizing n with
  | nil => rfl
  | cons op rest ih =>
    cases op with
    | load recs => exact ih (n.load recs)
    | query q => exact ih n

open Mixin.CustodianLookup

/-- every cache entry is the parse result of its key -/
def CacheOk (parse : Parse) (c : Cache) : Prop := ∀ e ∈ c, parse e.1.1 e.1.2 = some e.2

theorem cacheLoad_ok {parse : Parse} {c : Cache} (hc : CacheOk parse c) {k : Nat × Bool} {v : Nat}
    (h : cacheLoad c k = some v) : parse k.1 k.2 = some v := by
  unfold cacheLoad at h
  split at h
  · next e he =>
    cases h
    have hk : e.1 = k := by simpa using List.find?_some he
    rw [← hk]; exact hc e (List.mem_of_find?_eq_some he)
  · cases h

theorem parseItem_none (parse : Parse) (e : Entry) (g : Bool) :
    parseItem parse none e g = (parse e.tx g).map fun v => (⟨v, e.tx, e.ts⟩, none) := by
  unfold parseItem; cases parse e.tx g <;> rfl

theorem parseItem_some {parse : Parse} {c : Cache} (hc : CacheOk parse c) (e : Entry) (g : Bool) :
    ∃ c', CacheOk parse c' ∧
      parseItem parse (some c) e g = (parse e.tx g).map fun v => (⟨v, e.tx, e.ts⟩, some c') := by
  simp only [parseItem]
  cases hl : cacheLoad c (e.tx, g) with
  | some v => exact ⟨c, hc, by rw [cacheLoad_ok hc hl]; rfl⟩
  | none =>
    cases hp : parse e.tx g with
    | none => exact ⟨c, hc, rfl⟩
    | some cur =>
      refine ⟨c ++ [((e.tx, g), cur)], fun x hx => ?_, by simp only [cacheLoadOrStore, hl]; rfl⟩
      rcases List.mem_append.1 hx with hx | hx
      · exact hc x hx
      · rw [List.mem_singleton.1 hx]; exact hp

theorem readLoop_cached (parse : Parse) (ts : Nat) (l : List Entry) (g : Bool) (found : Option Found)
    (c : Cache) (hc : CacheOk parse c) :
    ∃ c', CacheOk parse c' ∧ readLoop parse ts l g found (some c) =
      (readLoop parse ts l g found none).map fun r => (r.1, some c') := by
  induction l generalizing g found c with
  | nil => exact ⟨c, hc, rfl⟩
  | cons e rest ih =>
    unfold readLoop
    split
    · exact ⟨c, hc, rfl⟩
    · obtain ⟨c1, hc1, h1⟩ := parseItem_some hc e g
      rw [h1, parseItem_none]
      cases parse e.tx g with
      | none => exact ⟨c, hc, rfl⟩
      | some v => exact ih false _ c1 hc1

/-- starting from any cache whose entries are parse results (in
    particular the empty one), a lookup served through the cache returns what a lookup without the
    cache returns (same record or the same error), and leaves such a cache behind. -/
theorem custodian_cache_transparent (parse : Parse) (store : List Entry) (ts : Nat) (c : Cache)
    (hc : CacheOk parse c) :
    (readCustodian parse store ts (some c)).map Prod.fst = (readCustodian parse store ts none).map Prod.fst ∧
    ∀ f c', readCustodian parse store ts (some c) = some (f, c') → ∃ c'', c' = some c'' ∧ CacheOk parse c'' := by
  obtain ⟨c1, hc1, h⟩ := readLoop_cached parse ts store true none c hc
  unfold readCustodian
  rw [h]
  cases readLoop parse ts store true none none with
  | none => exact ⟨rfl, nofun⟩
  | some r => exact ⟨rfl, fun f c' he => by cases he; exact ⟨c1, rfl, hc1⟩⟩

theorem cacheOk_nil (parse : Parse) : CacheOk parse [] := by intro e he; cases he

/-- key order of the store -/
def KeySorted (l : List Entry) : Prop := l.Pairwise (fun a b => a.ts < b.ts)

theorem readLoop_stop (parse : Parse) {t : Nat} {x : Entry} (hx : t < x.ts) (xs : List Entry) (g : Bool)
    (found : Option Found) (cache : Option Cache) :
    readLoop parse t (x :: xs) g found cache = some (found, cache) := by
  rw [readLoop, if_pos hx]

theorem readLoop_insert (parse : Parse) (t : Nat) (e : Entry) (he : t < e.ts) (l : List Entry) (g : Bool)
    (found : Option Found) (cache : Option Cache) :
    (readLoop parse t (insertKey e l) g found cache).map Prod.fst =
      (readLoop parse t l g found cache).map Prod.fst := by
  induction l generalizing g found cache with
  | nil => rw [insertKey, readLoop_stop parse he]; rfl
  | cons x xs ih =>
    rw [insertKey]
    by_cases hx : t < x.ts
    · -- whichever entry comes first, it lies after `t`
      rw [readLoop_stop parse hx]
      split
      · rw [readLoop_stop parse he]
      split
      · rw [readLoop_stop parse he]
      · rw [readLoop_stop parse hx]
    · rw [if_neg fun h => hx (Nat.lt_trans he h), if_neg fun h : e.ts = x.ts => hx (h ▸ he), readLoop, readLoop,
        if_neg hx, if_neg hx]
      cases parseItem parse cache x g with
      | none => rfl
      | some r => exact ih false (some r.1) r.2

/-- writing a custodian update with a timestamp after `t` does not
    change the custodian reported for `t`. -/
theorem custodian_prefix_stable (parse : Parse) (store : List Entry) (t : Nat) (e : Entry) (he : t < e.ts)
    (cache : Option Cache) :
    (readCustodian parse (insertKey e store) t cache).map Prod.fst =
      (readCustodian parse store t cache).map Prod.fst :=
  readLoop_insert parse t e he store true none cache

def r1 : Rec := { ts := 10, id := 1, signer := 11, payee := 12, state := .accepted, tx := 13 }
def r2 : Rec := { ts := 10, id := 2, signer := 21, payee := 22, state := .accepted, tx := 23 }
def r3 : Rec := { ts := 20, id := 3, signer := 31, payee := 32, state := .pledging, tx := 33 }
def r4 : Rec := { ts := 20, id := 1, signer := 11, payee := 12, state := .removed, tx := 43 }
example : DistinctKeys ([r2, r1, r3] ++ [r4]) := by
  unfold DistinctKeys; decide
example : ((default : Node).load [r2, r1, r3]).list 20 false = [⟨r1, 0⟩, ⟨r2, 1⟩] := by decide
example : ((default : Node).load ([r2, r1, r3] ++ [r4])).list 20 false = [⟨r1, 0⟩, ⟨r2, 1⟩] := by decide
example : ((default : Node).load ([r2, r1, r3] ++ [r4])).list 21 false = [⟨r2, 0⟩, ⟨r4, 1⟩, ⟨r3, 1⟩] := by decide
example : readCustodian (fun tx g => some (tx * 2 + g.toNat)) [⟨5, 7⟩, ⟨9, 8⟩] 9 (some []) =
    some (some ⟨16, 8, 9⟩, some [((7, true), 15), ((8, false), 16)]) := by decide

end Mixin.C11
