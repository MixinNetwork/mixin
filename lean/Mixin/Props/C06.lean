import Mixin.Proofs.TxCodecWf
import Mixin.Facts.ExpectedC06
/-!
# C06 — transaction encoding is canonical and its hash is content-addressed

Property theorems about `Mixin.Model.TxCodec` (the model of `common/encoding.go`,
`common/decoding.go`, `common/version.go`).

* `WF tx`    = `rep tx` (the value is representable in the Go types: array lengths, integer
               ranges, map entries strictly sorted by key) ∧ `guards tx` (no encoder panic guard fires).
* `Canon tx` = the decoder's own limits (≤ 256 references / keys per output / signature maps,
               not both kinds of authorization data, encoded size ≤ 4 MiB).
-/
namespace Mixin.C06
open Mixin Mixin.Bytes Mixin.TxCodec

/-! ## sample values used by the non-vacuity examples -/

def h32 (x : UInt8) : Bytes := List.replicate 32 x
def s64 (x : UInt8) : Bytes := List.replicate 64 x

def sampleIn : Input :=
  { hash := h32 1, index := 3, genesis := [], deposit := none, mint := none }
def sampleDeposit : Input :=
  { hash := h32 0, index := 0, genesis := [],
    deposit := some { chain := h32 9, assetKey := [0x61], transaction := [0x62, 0x63], index := 7, amount := 100000000 },
    mint := none }
def sampleMint : Input :=
  { hash := h32 0, index := 0, genesis := [1, 2], deposit := none,
    mint := some { group := [0x55], batch := 12, amount := 0 } }
def sampleOut : Output :=
  { type := 0, amount := 256, keys := [h32 2, h32 4], mask := h32 3, script := [0xff, 0xfe, 1],
    withdrawal := none }
def sampleWd : Output :=
  { type := 0xa1, amount := 0, keys := [], mask := h32 0, script := [],
    withdrawal := some { address := [0x41], tag := [] } }
def samplePayload : Payload :=
  { version := 5, asset := h32 0xaa, inputs := [sampleIn, sampleDeposit, sampleMint],
    outputs := [sampleOut, sampleWd], references := [h32 7], extra := [1, 2, 3] }
def sampleSigned : Tx :=
  { toPayload := samplePayload, agg := none, sigs := [[(0, s64 5), (2, s64 6)], []] }
def sampleAggOrdinary : Tx :=
  { toPayload := samplePayload, agg := some { signers := [0, 1, 9], sig := s64 8 }, sigs := [] }
def sampleAggSparse : Tx :=
  { toPayload := samplePayload, agg := some { signers := [500], sig := s64 8 }, sigs := [] }

/-- Any byte string `unmarshalVersionedTransaction` accepts re-encodes to exactly the same
    bytes. -/
theorem decode_canonical {b : Bytes} {tx : Tx} (h : decodeTx b = some tx) : encodeTx tx = b :=
  (decodeTx_eq_some.mp h).2.2

/-- Whatever the raw decoder returns is well formed — representable and within every panic
    guard of the encoder — and within the decoder's limits; so the canonical re-encoding
    inside `unmarshalVersionedTransaction` (and any later `Marshal`) cannot panic. -/
theorem decode_wf {b : Bytes} {tx : Tx} (h : decodeRaw b = some tx) : WF tx ∧ canon tx = true := by
  unfold decodeRaw at h
  obtain ⟨p, s1, h1, h⟩ := bind_pair_some h
  obtain ⟨⟨agg, sigs⟩, s2, h2, h⟩ := bind_pair_some h
  dsimp only at h
  obtain ⟨_, h⟩ := Option.ite_none_right_eq_some.mp h
  cases h
  exact wf_canon_iff.mpr ⟨readPayload_wf h1, readAuth_wf h2⟩

theorem decode_reencode_no_panic {b : Bytes} {tx : Tx} (h : decodeRaw b = some tx) :
    encodeChecked tx = some (encodeTx tx) := by
  unfold encodeChecked
  rw [if_pos (decode_wf h).1.2]

/-- the raw decoder alone (no size gate needed) -/
theorem roundtrip_raw (tx : Tx) (hwf : WF tx) (hc : canon tx = true) :
    decodeRaw (encodeTx tx) = some tx := by
  obtain ⟨⟨hrp, hgp, hc1, hc2⟩, ha⟩ := wf_canon_iff.mp ⟨hwf, hc⟩
  have hauth := readAuth_enc tx.agg tx.sigs [] ha
  rw [List.append_nil] at hauth
  simp only [decodeRaw, encodeTx, readPayload, Option.bind_eq_bind, Option.bind_some,
    readPayloadL_enc sliceCountLimit tx.toPayload _ (Nat.le_refl _) hrp hgp hc1 hc2, hauth,
    List.isEmpty_nil, if_true]

/-- Encoding followed by decoding returns an equal transaction: for every well-formed
    transaction within the decoder's limits, `unmarshalVersionedTransaction (encode tx) = tx`.
    Proved compositionally: one read-after-write lemma per field (`readInput_enc`,
    `readOutputL_enc`, `readSignatures_enc`, `readAgg_enc` incl. `maskSigners_maskBytes`, …)
    and induction over inputs, outputs, keys, references, signature maps and signer lists. -/
theorem roundtrip (tx : Tx) (hwf : WF tx) (hc : Canon tx) : decodeTx (encodeTx tx) = some tx :=
  decodeTx_eq_some.mpr ⟨hc.2, roundtrip_raw tx hwf hc.1, rfl⟩

theorem samplePayload_ok : PayloadOk samplePayload ∧ (encPayload samplePayload).length = 427 := by
  decide +kernel

/-- The samples share `samplePayload`, so only their authorization part is left to check. -/
theorem sample_wf {agg : Option AggSig} {sigs : List SigMap} (ha : AuthOk agg sigs)
    (hl : (encAuth agg sigs).length ≤ 1000) :
    WF ⟨samplePayload, agg, sigs⟩ ∧ Canon ⟨samplePayload, agg, sigs⟩ := by
  have ⟨hwf, hc⟩ := (wf_canon_iff (tx := ⟨samplePayload, agg, sigs⟩)).mpr ⟨samplePayload_ok.1, ha⟩
  refine ⟨hwf, hc, ?_⟩
  rw [encodeTx, List.length_append, samplePayload_ok.2]
  exact Nat.le_trans (Nat.add_le_add_left hl _) (by decide)

theorem sampleSigned_wf : WF sampleSigned ∧ Canon sampleSigned :=
  sample_wf (by decide +kernel) (by decide +kernel)
theorem sampleAggOrdinary_wf : WF sampleAggOrdinary ∧ Canon sampleAggOrdinary :=
  sample_wf (by decide +kernel) (by decide +kernel)

set_option maxRecDepth 100000 in
example : WF sampleSigned ∧ Canon sampleSigned := sampleSigned_wf
set_option maxRecDepth 100000 in
example : WF sampleAggOrdinary ∧ Canon sampleAggOrdinary := sampleAggOrdinary_wf
set_option maxRecDepth 100000 in
example : WF sampleAggSparse ∧ Canon sampleAggSparse :=
  sample_wf (by decide +kernel) (by decide +kernel)
set_option maxRecDepth 100000 in
example : useSparse [500] = true ∧ useSparse [0, 1, 9] = false := by decide

set_option maxRecDepth 100000 in
example : decodeTx (encodeTx sampleSigned) = some sampleSigned :=
  roundtrip _ sampleSigned_wf.1 sampleSigned_wf.2
set_option maxRecDepth 100000 in
example : (decodeRaw (encodeTx sampleAggOrdinary)).isSome = true := by
  rw [roundtrip_raw _ sampleAggOrdinary_wf.1 sampleAggOrdinary_wf.2.1]
  rfl

/-- `Marshal` (which, `config.Debug` being `true`, unmarshals its own output and panics on
    failure) never panics on a well-formed transaction within the decoder's limits. -/
theorem marshal_total (tx : Tx) (hwf : WF tx) (hc : Canon tx) : marshal tx = some (encodeTx tx) := by
  simp only [marshal, encodeChecked, if_pos hwf.2, roundtrip tx hwf hc, Option.isSome_some, if_true]

/-- Exact characterisation of acceptance: the accepted byte strings are precisely the
    encodings of well-formed transactions within the decoder's limits. -/
theorem decodeTx_iff (b : Bytes) (tx : Tx) :
    decodeTx b = some tx ↔ WF tx ∧ Canon tx ∧ encodeTx tx = b := by
  constructor
  · intro h
    obtain ⟨hsize, hraw, rfl⟩ := decodeTx_eq_some.mp h
    have ⟨hwf, hc⟩ := decode_wf hraw
    exact ⟨hwf, ⟨hc, hsize⟩, rfl⟩
  · rintro ⟨hwf, hc, rfl⟩
    exact roundtrip tx hwf hc

/-! ## non-canonical forms: accepted by `DecodeTransaction`, rejected by the canonical gate -/

/-- version, asset, no inputs, no outputs, no references, empty extra -/
def hdr : Bytes := magic ++ [0, 5] ++ h32 0xaa ++ [0, 0, 0, 0, 0, 0, 0, 0, 0, 0]
/-- the same with one output whose amount is written as `amt` (length-prefixed) -/
def hdrOut (amt : Bytes) : Bytes :=
  magic ++ [0, 5] ++ h32 0xaa ++ [0, 0] ++ [0, 1] ++ ([0, 0] ++ amt ++ [0, 0] ++ h32 3 ++ [0, 0] ++ [0, 0]) ++
    [0, 0] ++ [0, 0, 0, 0]
def aggHdr : Bytes := hdr ++ [0xff, 0xff, 0xff, 0x01] ++ s64 8

def NonCanonical (b : Bytes) : Prop := (decodeRaw b).isSome = true ∧ (decodeTx b).isNone = true

instance (b : Bytes) : Decidable (NonCanonical b) := by unfold NonCanonical; exact inferInstance

set_option maxRecDepth 100000 in
/- baseline: the canonical spellings are accepted -/
example : (decodeTx (hdr ++ [0, 0])).isSome = true ∧ (decodeTx (hdrOut [0, 1, 1] ++ [0, 0])).isSome = true ∧
    (decodeTx (aggHdr ++ [0, 0, 1, 1])).isSome = true ∧ (decodeTx (aggHdr ++ [0, 0, 0])).isSome = true := by
  decide +kernel

/-- a leading zero byte in an amount (`00 02 00 01` for 1) -/
theorem noncanonical_padded_amount : NonCanonical (hdrOut [0, 2, 0, 1] ++ [0, 0]) := by decide +kernel

/-- signature entries in decreasing index order (2 then 1) -/
theorem noncanonical_unsorted_signatures :
    NonCanonical (hdr ++ [0, 1] ++ [0, 2] ++ ([0, 2] ++ s64 6) ++ ([0, 1] ++ s64 5)) := by decide +kernel

/-- a sparse mask for the signer set {0}, whose canonical form is the ordinary mask `00 0001 01` -/
theorem noncanonical_sparse_for_dense : NonCanonical (aggHdr ++ [1, 0, 1, 0, 0]) := by decide +kernel

/-- an ordinary mask with a trailing zero byte -/
theorem noncanonical_mask_trailing_zero : NonCanonical (aggHdr ++ [0, 0, 2, 1, 0]) := by decide +kernel

/-- an empty sparse mask (`01 0000`), canonical form `00 0000` -/
theorem noncanonical_empty_sparse : NonCanonical (aggHdr ++ [1, 0, 0]) := by decide +kernel

/-- an all-zero ordinary mask of one byte (no signer), canonical form `00 0000` -/
theorem noncanonical_zero_mask : NonCanonical (aggHdr ++ [0, 0, 1, 0]) := by decide +kernel

/-- an ordinary mask for the signer set {500} (63 bytes), whose canonical form is sparse -/
theorem noncanonical_ordinary_for_sparse :
    NonCanonical (aggHdr ++ [0, 0, 63] ++ List.replicate 62 0 ++ [16]) := by decide +kernel

/-- 257 signature maps announced, 256 read (`min(sl, SliceCountLimit)`), nothing follows -/
theorem noncanonical_overannounced_maps :
    NonCanonical (hdr ++ [1, 1] ++ (List.replicate 256 [0, 0]).flatten) := by decide +kernel

set_option maxRecDepth 100000 in
/- rejected already by the raw decoder: a duplicate signature index, a trailing byte, a
    zero-length amount at the very end of the input (the `bytes.Reader` quirk is not reachable
    inside a transaction, but the reader models it) -/
example : decodeRaw (hdr ++ [0, 1] ++ [0, 2] ++ ([0, 1] ++ s64 6) ++ ([0, 1] ++ s64 5)) = none ∧
    decodeRaw (hdr ++ [0, 0] ++ [0]) = none ∧ readInteger [0, 0] = none := by decide +kernel

/-- The payload encoding (what `PayloadHash` hashes) does not depend on the authorization data. -/
theorem hash_ignores_auth (tx : Tx) (agg : Option AggSig) (sigs : List SigMap) :
    payloadBytes { tx with agg := agg, sigs := sigs } = payloadBytes tx := rfl

set_option maxRecDepth 100000 in
example : payloadBytes sampleSigned = payloadBytes sampleAggSparse := rfl

/-- An accepted *unsigned* transaction is its own payload encoding (so `PayloadMarshal` and
    `PayloadHash` of a decoded unsigned transaction are functions of the accepted bytes — and
    of nothing the caller does with its buffer afterwards; the `alias` correspondence stream
    holds the implementation to this). -/
theorem unsigned_is_own_payload {b : Bytes} {tx : Tx} (h : decodeTx b = some tx)
    (ha : tx.agg = none) (hs : tx.sigs = []) : payloadBytes tx = b := by
  have hb := decode_canonical h
  obtain ⟨p, agg, sigs⟩ := tx
  simp only at ha hs
  subst ha hs
  exact hb

theorem encAuth_length_ge (agg : Option AggSig) (sigs : List SigMap) : 2 ≤ (encAuth agg sigs).length := by
  cases agg with
  | none => simp [encAuth, writeU16]
  | some a => simp [encAuth, encAgg, writeU16]

theorem payloadBytes_eq (tx : Tx) : payloadBytes tx = encPayload tx.toPayload ++ encAuth none [] := rfl

theorem payloadBytes_length_le (tx : Tx) : (payloadBytes tx).length ≤ (encodeTx tx).length := by
  rw [payloadBytes_eq, encodeTx, List.length_append, List.length_append]
  exact Nat.add_le_add_left (encAuth_length_ge tx.agg tx.sigs) _

/-- `PayloadMarshal` of an accepted transaction never trips its debug self-check and is the
    payload encoding of the decoded value — for signed and unsigned transactions alike. -/
theorem payloadMarshal_decoded {b : Bytes} {tx : Tx} (h : decodeTx b = some tx) :
    payloadMarshal tx = some (payloadBytes tx) := by
  obtain ⟨hwf, ⟨hc, hsize⟩, rfl⟩ := (decodeTx_iff b tx).mp h
  obtain ⟨hp, _⟩ := wf_canon_iff.mp ⟨hwf, hc⟩
  have ⟨hwf', hc'⟩ := (wf_canon_iff (tx := { tx with agg := none, sigs := [] })).mpr
    ⟨hp, rfl, rfl, Nat.zero_le _, rfl⟩
  exact marshal_total _ hwf' ⟨hc', Nat.le_trans (payloadBytes_length_le tx) hsize⟩

/-- Two well-formed transactions with the same payload encoding have the same payload
    (version, asset, inputs incl. genesis/deposit/mint data, outputs incl. withdrawal data,
    references, extra): the payload encoding is injective. No decoder limit is assumed — the
    proof reads the bytes back with the limit-parametric reader at limit 65535. -/
theorem payload_inj (t₁ t₂ : Tx) (h₁ : WF t₁) (h₂ : WF t₂)
    (h : payloadBytes t₁ = payloadBytes t₂) : t₁.toPayload = t₂.toPayload := by
  have key : ∀ t : Tx, WF t →
      readPayloadL 65535 (payloadBytes t) = some (t.toPayload, encAuth none []) := by
    intro t ⟨hrep, hg⟩
    simp only [rep, guards, Bool.and_eq_true] at hrep hg
    have hgp := hg.1
    simp only [guardsPayload, guardsBody, Bool.and_eq_true, decide_eq_true_eq, List.all_eq_true] at hgp
    obtain ⟨_, ⟨⟨⟨_, hgo⟩, hgrl⟩, _⟩⟩ := hgp
    rw [payloadBytes_eq]
    apply readPayloadL_enc 65535 _ _ (by decide) hrep.1 hg.1 hgrl
    intro o ho
    have := hgo o ho
    simp only [guardsOutput, Bool.and_eq_true, decide_eq_true_eq] at this
    exact this.1.1.2
  have e₁ := key t₁ h₁
  have e₂ := key t₂ h₂
  rw [h, e₂] at e₁
  simp only [Option.some.injEq, Prod.mk.injEq] at e₁
  exact e₁.1.symm

/-- Different payloads ⇒ different hash preimages, hence — for any hash function that does
    not collide on these two preimages — different transaction hashes. -/
theorem hash_content_addressed {Hash : Type} (H : Bytes → Hash) (t₁ t₂ : Tx) (h₁ : WF t₁) (h₂ : WF t₂)
    (hcoll : H (payloadBytes t₁) = H (payloadBytes t₂) → payloadBytes t₁ = payloadBytes t₂)
    (hne : t₁.toPayload ≠ t₂.toPayload) : H (payloadBytes t₁) ≠ H (payloadBytes t₂) :=
  fun e => hne (payload_inj t₁ t₂ h₁ h₂ (hcoll e))

end Mixin.C06
