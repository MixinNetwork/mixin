import Mixin.Props.C05
import Mixin.Props.C06
/-!
# Bridge C06 → C05: the validator's "decodable transaction" is what the decoder returns

`Mixin.C05.validate_total` quantifies over the *abstract* transactions of
`Mixin.Validate` (interned identifiers, derived fields) under the hypothesis
`C05.Decodable`; `Mixin.C06` proves well-formedness of what the *byte-level* decoder model
`Mixin.TxCodec.decodeTx` returns.  This file connects the two by the translation
`toValidateTx E : TxCodec.Tx → Validate.Tx`, the Lean rendering of what `harness/c05_validate.go`
(`c05ExecValidate`) does in Go when it turns the result of `UnmarshalVersionedTransaction` into
the model's input line.

## What the translation needs from outside (`Env`)
* `I`      an injective interning of byte strings as `Validate.Id` (`Faithful`: 32 zero bytes ↦ 0,
           `XINAssetId` ↦ 1, as the validator model fixes those two identifiers);
* `H`      `crypto.Blake3Hash` (opaque);
* `cap`    `GetAssetCapacity(asset)`;
* `trimOk` `strings.TrimSpace(s) == s && len(s) > 0` (Unicode white space, not modelled);
* `depositKey` `DepositData.UniqueKey()` = a hash of chain, transaction string and index.

## What the translation forgets
* the *content* of every hash, key, mask, signature, extra, asset key: only equality survives
  (through the injective `I`); of `Extra` its length, its identity, the identity of its first 64
  bytes (`"short:" ++ extra` when shorter, as the harness does) and of its first 32 bytes
  zero-padded (the key `NodePledge` reads);
* `Input.genesis` ↦ `genesis ≠ []`; `Output.withdrawal` ↦ presence only (address and tag
  dropped: `Validate` never reads them); `Mint.group` ↦ `group == "UNIVERSAL"`;
  `Deposit.transaction`/`index` ↦ `trimOk transaction` and the unique key; `Deposit.assetKey` ↦
  `trimOk` and identity (interned with the harness's `"s:"` prefix);
* the byte values of `Output.script` are kept (as `Nat`s), amounts are kept (`Nat`),
  signer lists and signature-map indexes are kept, signature *values* are interned;
* `nil` versus empty: `SignaturesMap` is `none` exactly when the decoded list is empty.  For
  decoded values this is exact (the decoder leaves the field `nil` when the count is 0 or an
  aggregate follows, and never produces an empty non-nil slice), and it matters: `Validate`
  tests `tx.SignaturesMap != nil` next to an aggregate signature.
-/
namespace Mixin.Bridge
open Mixin Mixin.Bytes

structure Interning where
  f : Bytes → Validate.Id
  inj : ∀ a b, f a = f b → a = b

def zero32 : Bytes := List.replicate 32 0

/-- `common.XINAssetId` = SHA3-256("c94ac88f-4671-3976-b60a-09064f1811e8") -/
def xinId : Bytes :=
  [0xa9, 0x9c, 0x2e, 0x0e, 0x2b, 0x1d, 0xa4, 0xd6, 0x48, 0x75, 0x5e, 0xf1, 0x9b, 0xd9, 0x51, 0x39,
   0xac, 0xbb, 0xe6, 0x56, 0x4c, 0xfb, 0x06, 0xde, 0xc7, 0xcd, 0x34, 0x93, 0x1c, 0xa7, 0x2c, 0xdc]

/-- the two identifiers the validator model fixes -/
def Interning.Faithful (I : Interning) : Prop := I.f zero32 = 0 ∧ I.f xinId = Validate.xin

structure Env where
  I : Interning
  H : Bytes → Bytes
  cap : Bytes → Nat
  trimOk : Bytes → Bool
  depositKey : Bytes → Bytes → Nat → Bytes

def universalGroup : Bytes := [0x55, 0x4e, 0x49, 0x56, 0x45, 0x52, 0x53, 0x41, 0x4c]  -- "UNIVERSAL"
def shortPrefix : Bytes := [0x73, 0x68, 0x6f, 0x72, 0x74, 0x3a]                        -- "short:"
def strPrefix : Bytes := [0x73, 0x3a]                                                  -- "s:"

/-- `copy(k[:], b)` into a zeroed 32-byte key -/
def key32 (b : Bytes) : Bytes := b.take 32 ++ List.replicate (32 - (b.take 32).length) 0

def extra64 (e : Bytes) : Bytes := if e.length ≥ 64 then e.take 64 else shortPrefix ++ e

def toDeposit (E : Env) (d : TxCodec.Deposit) : Validate.Deposit :=
  { chain := E.I.f d.chain, assetKeyOk := E.trimOk d.assetKey, assetKey := E.I.f (strPrefix ++ d.assetKey),
    txOk := E.trimOk d.transaction, uniq := E.I.f (E.depositKey d.chain d.transaction d.index),
    amount := d.amount }

def toMint (m : TxCodec.Mint) : Validate.Mint :=
  { universal := m.group == universalGroup, batch := m.batch, amount := m.amount }

def toInput (E : Env) (i : TxCodec.Input) : Validate.Input :=
  { hash := E.I.f i.hash, index := i.index, genesis := !i.genesis.isEmpty,
    deposit := i.deposit.map (toDeposit E), mint := i.mint.map toMint }

def toOutput (E : Env) (o : TxCodec.Output) : Validate.Output :=
  { type := o.type.toNat, amount := o.amount, keys := o.keys.map E.I.f, mask := E.I.f o.mask,
    script := o.script.map (·.toNat), withdrawal := o.withdrawal.isSome }

def toSigMap (E : Env) (m : TxCodec.SigMap) : List (Nat × Validate.Id) := m.map (fun e => (e.1, E.I.f e.2))

def toSigs (E : Env) (sigs : List TxCodec.SigMap) : Option (List (List (Nat × Validate.Id))) :=
  if sigs.isEmpty then none else some (sigs.map (toSigMap E))

def toValidateTx (E : Env) (tx : TxCodec.Tx) : Validate.Tx :=
  { version := tx.version.toNat
    asset := E.I.f tx.asset
    inputs := tx.inputs.map (toInput E)
    outputs := tx.outputs.map (toOutput E)
    references := tx.references.map E.I.f
    extraLen := tx.extra.length
    extraId := E.I.f tx.extra
    extra64 := E.I.f (extra64 tx.extra)
    extraSpend := E.I.f (key32 tx.extra)
    sigs := toSigs E tx.sigs
    agg := tx.agg.map (fun a => (a.signers, E.I.f a.sig))
    hash := E.I.f (E.H (TxCodec.payloadBytes tx))
    payloadSize := (TxCodec.payloadBytes tx).length
    cap := E.cap tx.asset }

/-! ## what an accepted byte string gives -/

theorem decoded_wf {b : Bytes} {tx : TxCodec.Tx} (h : TxCodec.decodeTx b = some tx) :
    TxCodec.WF tx ∧ TxCodec.Canon tx ∧ TxCodec.encodeTx tx = b :=
  (C06.decodeTx_iff b tx).mp h

theorem txMaxSize_agree : Validate.txMaxSize = TxCodec.txMaxSize := by decide
theorem sliceCountLimit_agree : Validate.sliceCountLimit = TxCodec.sliceCountLimit := by decide
theorem inputIndexLimit_agree : Validate.inputIndexLimit = TxCodec.inputIndexLimit := by decide
theorem extraCapacity_agree : Validate.extraCapacity = TxCodec.extraCapacity := by decide
theorem maxEncInt_agree : Validate.maxEncInt = TxCodec.maxEncodingInt := by decide

/-- **inherited, not re-checked** (a violation would be the `PayloadMarshal` debug panic inside
    `Validate`): the payload encoding of a decoded transaction fits `TransactionMaximumSize`.
    This is the whole of `C05.Decodable`. -/
theorem decoded_is_decodable (E : Env) {b : Bytes} {tx : TxCodec.Tx}
    (h : TxCodec.decodeTx b = some tx) : C05.Decodable (toValidateTx E tx) := by
  obtain ⟨_, ⟨_, hsize⟩, _⟩ := decoded_wf h
  constructor
  simp only [toValidateTx, txMaxSize_agree]
  exact Nat.le_trans (C06.payloadBytes_length_le tx) hsize

/-- **inherited**: the encoder guards inside `PayloadMarshal` other than the size limit are not
    modelled in `Validate`, on the assumption that decoded transactions never reach them; C06 proves it. -/
theorem decoded_payloadMarshal_no_guard {b : Bytes} {tx : TxCodec.Tx}
    (h : TxCodec.decodeTx b = some tx) : TxCodec.payloadMarshal tx = some (TxCodec.payloadBytes tx) :=
  C06.payloadMarshal_decoded h

section bounds
variable (E : Env) {b : Bytes} {tx : TxCodec.Tx}

/-- the encoder guards (`TxCodec.guards`) a decoded transaction passed, by name -/
theorem decoded_guards (h : TxCodec.decodeTx b = some tx) :
    tx.version = TxCodec.txVersion ∧ tx.inputs.length ≤ TxCodec.sliceCountLimit ∧
    (∀ i ∈ tx.inputs, i.index ≤ TxCodec.inputIndexLimit) ∧ tx.outputs.length ≤ TxCodec.sliceCountLimit ∧
    tx.extra.length ≤ TxCodec.extraCapacity := by
  obtain ⟨⟨_, hg⟩, _, _⟩ := decoded_wf h
  simp only [TxCodec.guards, TxCodec.guardsPayload, TxCodec.guardsBody, Bool.and_eq_true, beq_iff_eq,
    decide_eq_true_eq, List.all_eq_true] at hg
  obtain ⟨⟨hversion, ⟨⟨⟨⟨hinputs, hinput⟩, houtputs⟩, _⟩, _⟩, hextra⟩, _⟩ := hg
  refine ⟨hversion, hinputs, fun i hi => ?_, houtputs, hextra⟩
  have := hinput i hi
  simp only [TxCodec.guardsInput, Bool.and_eq_true, decide_eq_true_eq] at this
  exact this.1.1.1

/-- the canonical-form conditions (`TxCodec.canon`) of a decoded transaction, by name -/
theorem decoded_canon (h : TxCodec.decodeTx b = some tx) :
    tx.references.length ≤ TxCodec.sliceCountLimit ∧
    (∀ o ∈ tx.outputs, o.keys.length ≤ TxCodec.sliceCountLimit) ∧
    tx.sigs.length ≤ TxCodec.sliceCountLimit ∧ (tx.agg.isNone = true ∨ tx.sigs.isEmpty = true) := by
  obtain ⟨_, ⟨hc, _⟩, _⟩ := decoded_wf h
  simp only [TxCodec.canon, Bool.and_eq_true, Bool.or_eq_true, decide_eq_true_eq, List.all_eq_true] at hc
  obtain ⟨⟨⟨hrefs, hkeys⟩, hsigs⟩, hauth⟩ := hc
  exact ⟨hrefs, hkeys, hsigs, hauth⟩

/-- re-checked by `structural` (`version != TxVersionHashSignature`) -/
theorem decoded_version (h : TxCodec.decodeTx b = some tx) :
    (toValidateTx E tx).version = Facts.Gen.common_TxVersionHashSignature := by
  show tx.version.toNat = _
  rw [(decoded_guards h).1]; decide

/-- re-checked by `structural` (`len(Inputs) > SliceCountLimit`) -/
theorem decoded_inputs_le (h : TxCodec.decodeTx b = some tx) :
    (toValidateTx E tx).inputs.length ≤ Validate.sliceCountLimit := by
  obtain ⟨_, hinputs, _⟩ := decoded_guards h
  rw [sliceCountLimit_agree]
  simpa [toValidateTx] using hinputs

/-- re-checked by `structural` (`len(Outputs) > SliceCountLimit`) -/
theorem decoded_outputs_le (h : TxCodec.decodeTx b = some tx) :
    (toValidateTx E tx).outputs.length ≤ Validate.sliceCountLimit := by
  obtain ⟨_, _, _, houtputs, _⟩ := decoded_guards h
  rw [sliceCountLimit_agree]
  simpa [toValidateTx] using houtputs

/-- re-checked by `structural` (`len(References) > SliceCountLimit`; `validateReferences` then
    applies the tighter `ReferencesCountLimit`, which the decoder does not know) -/
theorem decoded_references_le (h : TxCodec.decodeTx b = some tx) :
    (toValidateTx E tx).references.length ≤ Validate.sliceCountLimit := by
  rw [sliceCountLimit_agree]
  simpa [toValidateTx] using (decoded_canon h).1

/-- re-checked by `structural` (`in.Index > InputIndexLimit`) -/
theorem decoded_index_le (h : TxCodec.decodeTx b = some tx) :
    ∀ i ∈ (toValidateTx E tx).inputs, i.index ≤ Validate.inputIndexLimit := by
  obtain ⟨_, _, hindex, _⟩ := decoded_guards h
  intro i hi
  obtain ⟨j, hj, rfl⟩ := List.mem_map.1 hi
  rw [inputIndexLimit_agree]
  exact hindex j hj

/-- re-checked by `validateOutputs` (`len(o.Keys) > SliceCountLimit`) -/
theorem decoded_keys_le (h : TxCodec.decodeTx b = some tx) :
    ∀ o ∈ (toValidateTx E tx).outputs, o.keys.length ≤ Validate.sliceCountLimit := by
  obtain ⟨_, hkeys, _⟩ := decoded_canon h
  intro o ho
  obtain ⟨p, hp, rfl⟩ := List.mem_map.1 ho
  rw [sliceCountLimit_agree]
  simpa [toOutput] using hkeys p hp

/-- re-checked by `structural` through `GetExtraLimit` (whose value never exceeds the capacity) -/
theorem decoded_extra_le (h : TxCodec.decodeTx b = some tx) :
    (toValidateTx E tx).extraLen ≤ Validate.extraCapacity := by
  obtain ⟨_, _, _, _, hextra⟩ := decoded_guards h
  rw [extraCapacity_agree]
  exact hextra

theorem incFrom_eq_validSignersFrom (p : Option Nat) (l : List Nat) :
    Validate.incFrom p l = TxCodec.validSignersFrom p l := by
  induction l generalizing p with
  | nil => cases p <;> rfl
  | cons m ms ih =>
    cases p with
    | none => simp [Validate.incFrom, TxCodec.validSignersFrom, ih, maxEncInt_agree]
    | some q => simp [Validate.incFrom, TxCodec.validSignersFrom, ih, maxEncInt_agree, Bool.and_assoc]

theorem signersOk_eq_validSigners (l : List Nat) : Validate.signersOk l = TxCodec.validSigners l := by
  simp [Validate.signersOk, TxCodec.validSigners, incFrom_eq_validSignersFrom, maxEncInt_agree]

/-- re-checked by `validateUTXO` (`validateAggregatedSigners`): the signer list of a decoded
    aggregate signature is strictly increasing and within 0..65535 -/
theorem decoded_signers_ok (h : TxCodec.decodeTx b = some tx) :
    ∀ s sig, (toValidateTx E tx).agg = some (s, sig) → Validate.signersOk s = true := by
  obtain ⟨⟨_, hg⟩, _, _⟩ := decoded_wf h
  intro s sig hs
  obtain ⟨a, ha, hp⟩ := Option.map_eq_some_iff.1 hs
  cases hp
  have hga := (Bool.and_eq_true_iff.1 hg).2
  rw [ha] at hga
  rw [signersOk_eq_validSigners]
  exact TxCodec.validSigners_of_guardsAgg hga

/-- re-checked by `Validate` (`AggregatedSignature != nil && SignaturesMap != nil`): never both -/
theorem decoded_not_both (h : TxCodec.decodeTx b = some tx) :
    (toValidateTx E tx).agg.isSome = true → (toValidateTx E tx).sigs = none := by
  obtain ⟨_, _, _, hauth⟩ := decoded_canon h
  intro ha
  simp only [toValidateTx, Option.isSome_map] at ha
  rcases hauth with hn | he
  · rw [Option.isNone_iff_eq_none.1 hn] at ha
    cases ha
  · simp [toValidateTx, toSigs, he]

/-- **inherited** (`Validate` indexes `u.keys` with these and never checks them for duplicates):
    at most `SliceCountLimit` signature maps, each with strictly increasing indexes below 65536 -/
theorem decoded_sigmaps (h : TxCodec.decodeTx b = some tx) :
    tx.sigs.length ≤ TxCodec.sliceCountLimit ∧
    ∀ m ∈ tx.sigs, m.Pairwise (fun a b => a.1 < b.1) ∧ ∀ e ∈ m, e.1 < 65536 := by
  obtain ⟨⟨hr, _⟩, _, _⟩ := decoded_wf h
  obtain ⟨_, _, hsigs, _⟩ := decoded_canon h
  simp only [TxCodec.rep, TxCodec.repAuth, Bool.and_eq_true, List.all_eq_true] at hr
  refine ⟨hsigs, fun m hm => ?_⟩
  have := hr.2.2 m hm
  simp only [TxCodec.repSigMap, Bool.and_eq_true, TxCodec.sortedKeysFrom_iff, List.all_eq_true,
    decide_eq_true_eq] at this
  exact ⟨this.1.2, fun e he => (this.2 e he).1⟩

/-- Put together: on a decoded transaction the version / count / index guards of `structural`
    (and the key-count guard of `validateOutputs`) can never fire — `Validate` re-checks what the
    decoder already enforced; they matter only for transactions built in memory. The guards that
    remain live are the ones about meaning (type, at least one input and output, extra limit by
    asset and storage output, references ≤ `ReferencesCountLimit`). -/
theorem decoded_structural_guards_idle (h : TxCodec.decodeTx b = some tx) :
    ((toValidateTx E tx).version != Facts.Gen.common_TxVersionHashSignature) = false ∧
    (decide ((toValidateTx E tx).inputs.length > Validate.sliceCountLimit) ||
      decide ((toValidateTx E tx).outputs.length > Validate.sliceCountLimit) ||
      decide ((toValidateTx E tx).references.length > Validate.sliceCountLimit)) = false ∧
    (toValidateTx E tx).inputs.any (fun i => decide (i.index > Validate.inputIndexLimit)) = false ∧
    (toValidateTx E tx).outputs.any (fun o => decide (o.keys.length > Validate.sliceCountLimit)) = false := by
  refine ⟨by simp [decoded_version E h], ?_, ?_, ?_⟩
  · simp only [Bool.or_eq_false_iff, decide_eq_false_iff_not, Nat.not_lt]
    exact ⟨⟨decoded_inputs_le E h, decoded_outputs_le E h⟩, decoded_references_le E h⟩
  · rw [List.any_eq_false]
    intro i hi
    simpa using decoded_index_le E h i hi
  · rw [List.any_eq_false]
    intro o ho
    simpa using decoded_keys_le E h o ho

end bounds

/-! ## C05 over bytes -/

/-- For every byte string the decoder accepts, every ledger view
    satisfying the C05 ledger invariants, every oracle, both fork modes and every choice of the
    external functions `E`: validating the decoded transaction returns accept or reject — no
    panic site of `VersionedTransaction.Validate` is reached. -/
theorem validate_total_on_bytes (E : Env) {b : Bytes} {tx : TxCodec.Tx}
    (h : TxCodec.decodeTx b = some tx) {L : Validate.Ledger} (hI : Validate.LedgerInv L)
    (O : Validate.Oracle) (fork : Bool) :
    ∀ site, Validate.validate L O (toValidateTx E tx) fork ≠ .panic site :=
  C05.validate_total (decoded_is_decodable E h) hI

/-- the same with the decoding made explicit: a byte string either is rejected by the decoder or
    validates to accept / reject -/
theorem bytes_never_panic (E : Env) (b : Bytes) {L : Validate.Ledger} (hI : Validate.LedgerInv L)
    (O : Validate.Oracle) (fork : Bool) :
    TxCodec.decodeTx b = none ∨
    ∃ tx, TxCodec.decodeTx b = some tx ∧ ∀ site, Validate.validate L O (toValidateTx E tx) fork ≠ .panic site := by
  cases h : TxCodec.decodeTx b with
  | none => exact Or.inl rfl
  | some tx => exact Or.inr ⟨tx, rfl, validate_total_on_bytes E h hI O fork⟩

/-! ## the hash the validator signs over is the hash of C06's payload bytes -/

/-- by definition of the translation, the validator model's `hash` (the message of every `Verify` /
    `AggregateVerify` oracle call, C02) is the interned hash of `TxCodec.payloadBytes` -/
theorem payload_hash_bridge (E : Env) (tx : TxCodec.Tx) :
    (toValidateTx E tx).hash = E.I.f (E.H (TxCodec.payloadBytes tx)) ∧
    (toValidateTx E tx).payloadSize = (TxCodec.payloadBytes tx).length := by
  -- unfolding the translation first keeps the kernel from evaluating `payloadBytes tx`
  simp only [toValidateTx, and_self]

/-- it does not depend on the authorization data -/
theorem hash_bridge_ignores_auth (E : Env) (tx : TxCodec.Tx) (agg : Option TxCodec.AggSig)
    (sigs : List TxCodec.SigMap) :
    (toValidateTx E { tx with agg := agg, sigs := sigs }).hash = (toValidateTx E tx).hash := rfl

/-- and, for a hash function without collisions on the two preimages, it determines the whole
    payload: two accepted byte strings whose translations carry the same `hash` decode to the same
    version, asset, inputs, outputs, references and extra -/
theorem hash_determines_payload (E : Env) {b₁ b₂ : Bytes} {t₁ t₂ : TxCodec.Tx}
    (h₁ : TxCodec.decodeTx b₁ = some t₁) (h₂ : TxCodec.decodeTx b₂ = some t₂)
    (hcoll : E.H (TxCodec.payloadBytes t₁) = E.H (TxCodec.payloadBytes t₂) →
      TxCodec.payloadBytes t₁ = TxCodec.payloadBytes t₂)
    (hh : (toValidateTx E t₁).hash = (toValidateTx E t₂).hash) : t₁.toPayload = t₂.toPayload :=
  C06.payload_inj t₁ t₂ (decoded_wf h₁).1 (decoded_wf h₂).1 (hcoll (E.I.inj _ _ hh))

/-! ## a concrete interning (the hypotheses are satisfiable) -/

/-- `b ↦ beVal (1 :: b)` is injective on all byte strings (the leading 1 fixes the length) -/
theorem tagged_inj (a b : Bytes) (h : beVal (1 :: a) = beVal (1 :: b)) : a = b := by
  have key : ∀ a b : Bytes, a.length < b.length → beVal (1 :: a) ≠ beVal (1 :: b) := by
    intro a b hl he
    rw [beVal_cons, beVal_cons, show (1 : UInt8).toNat = 1 from rfl] at he
    have ha := beVal_lt a
    have : 256 ^ (a.length + 1) ≤ 256 ^ b.length := Nat.pow_le_pow_right (by decide) hl
    omega
  have hlen : a.length = b.length :=
    Nat.le_antisymm (Nat.not_lt.1 fun hl => key b a hl h.symm) (Nat.not_lt.1 fun hl => key a b hl h)
  have e := be_beVal (1 :: a)
  rw [h, List.length_cons, hlen] at e
  exact (List.cons.inj (e.symm.trans (be_beVal (1 :: b)))).2

def exIntern (b : Bytes) : Nat :=
  if b = zero32 then 0 else if b = xinId then 1 else beVal (1 :: b) + 2

def exI : Interning where
  f := exIntern
  inj := by
    intro a b (h : exIntern a = exIntern b)
    unfold exIntern at h
    by_cases ha0 : a = zero32
    · by_cases hb0 : b = zero32
      · rw [ha0, hb0]
      · rw [if_pos ha0, if_neg hb0] at h
        split at h <;> omega
    · by_cases hb0 : b = zero32
      · rw [if_neg ha0, if_pos hb0] at h
        split at h <;> omega
      · rw [if_neg ha0, if_neg hb0] at h
        by_cases ha1 : a = xinId
        · by_cases hb1 : b = xinId
          · rw [ha1, hb1]
          · rw [if_pos ha1, if_neg hb1] at h
            omega
        · by_cases hb1 : b = xinId
          · rw [if_neg ha1, if_pos hb1] at h
            omega
          · rw [if_neg ha1, if_neg hb1] at h
            exact tagged_inj a b (by omega)

theorem exI_faithful : exI.Faithful := ⟨rfl, rfl⟩

/-! ## non-vacuity: byte strings that decode, translate and validate -/
namespace Example
open Mixin.C06 (h32 s64)

def env : Env :=
  { I := exI, H := fun b => b.take 32, cap := fun _ => 1000, trimOk := fun s => !s.isEmpty,
    depositKey := fun c t _ => c ++ t }

/-- one input `(0101…01, 0)`, one script output of amount `amt` for key `0202…02` with mask `0303…03`
    and script `fffe01`, one signature map `{0: 0505…05}`; asset `aaaa…aa`. In hex (amt = 0x14):
    `77770005 aa×32 0001 01×32 0000 0000 0000 0000 0001 0000 000114 0001 02×32 03×32 0003fffe01 0000
     0000 00000000 0001 0001 0000 05×64` -/
def spendBytes (amt : UInt8) : Bytes :=
  TxCodec.magic ++ [0, 5] ++ h32 0xaa ++
    [0, 1] ++ (h32 1 ++ [0, 0] ++ [0, 0] ++ [0, 0] ++ [0, 0]) ++
    [0, 1] ++ ([0, 0] ++ [0, 1, amt] ++ [0, 1] ++ h32 2 ++ h32 3 ++ [0, 3, 255, 254, 1] ++ [0, 0]) ++
    [0, 0] ++ [0, 0, 0, 0] ++
    [0, 1] ++ ([0, 1] ++ [0, 0] ++ s64 5)

def fundOut : Validate.Output :=
  { type := 0, amount := 20, keys := [exIntern (h32 7)], mask := exIntern (h32 8), script := [255, 254, 1],
    withdrawal := false }

/-- the unspent output `(0101…01, 0)` of 20 units of asset `aaaa…aa`, its creating transaction,
    and a custodian -/
def ledger : Validate.Ledger :=
  { utxos := [{ hash := exIntern (h32 1), index := 0, type := 0, asset := exIntern (h32 0xaa), amount := 20,
                keys := [exIntern (h32 7)], mask := exIntern (h32 8), script := [255, 254, 1], lock := 0 }],
    txs := [{ hash := exIntern (h32 1), payloadHash := exIntern (h32 1), finalized := true, txType := 0,
              extraId := 2, signerAddr := 30, signerSpend := 31, inputs := [(5, 0)], outputs := [fundOut] }],
    custodian := some { key := 150, addr := 50, nodes := [(60, 61), (62, 63)] } }

def oracle : Validate.Oracle :=
  { checkKey := fun _ => true, verify := fun _ _ => true, aggVerify := fun _ _ _ => false,
    claimSig := false, updParse := none, updSig := false, scalarOk := false, ghostEq := false }

theorem ledger_inv : Validate.LedgerInv ledger where
  utxoPos := by decide
  utxoTx := by decide
  txOutputs := by decide
  nodeStates := by decide
  pledgingTx := by decide
  custodian := by decide
  custodianNodup := by
    intro c hc
    simp [ledger] at hc
    subst hc
    decide

def run (b : Bytes) : Option Validate.Outcome :=
  (TxCodec.decodeTx b).map (fun tx => Validate.validate ledger oracle (toValidateTx env tx) false)

/-- accepted: 20 in, 20 out -/
theorem spend_accepted : run (spendBytes 20) = some (.accept 20 20) := by decide +kernel

/-- the same bytes with output amount 19: decodes, the validator rejects (input ≠ output sum) -/
theorem spend_rejected : run (spendBytes 19) = some .reject := by decide +kernel

/-- a transaction without inputs and outputs decodes and is rejected by the validator; a
    non-canonical spelling does not even decode -/
theorem empty_rejected : run (C06.hdr ++ [0, 0]) = some .reject ∧
    run (C06.hdrOut [0, 2, 0, 1] ++ [0, 0]) = none := by decide +kernel

/- the general theorem instantiated at these bytes -/
example : ∀ site, ∀ tx, TxCodec.decodeTx (spendBytes 20) = some tx →
    Validate.validate ledger oracle (toValidateTx env tx) true ≠ .panic site :=
  fun site _ h => validate_total_on_bytes env h ledger_inv oracle true site

end Example

end Mixin.Bridge
