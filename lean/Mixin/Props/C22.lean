import Mixin.Props.C21
import Mixin.Facts.ExpectedC22
/-!
# C22 — restart after a crash at any write boundary yields a consistent ledger

Same model (`Mixin.Model.Recovery`) and the same notion of reachable durable state
(`Mixin.C21.Reach`: genesis, then any sequence of committed storage calls, marker writes and
restarts; every prefix of a write sequence is such a sequence) as C21.

The call-order discipline ("body written and inputs locked before the snapshot that finalizes
it; StartNewRound n before snapshots of round n") needs no hypothesis: the `config.Debug`
asserts of `WriteTransaction` / `WriteSnapshot` enforce it (the model returns `panic`, no state
change). The hypotheses that remain are `C21.SnapProto` on a finalization write (next topology
order; a consensus-class transaction extends the current marker) and, for the ROUND records and
the full restart (`LReach`), `RoundProto` on a round transition (the final round is recorded
under the hash of exactly the snapshots stored in it).

Crashes INSIDE a Badger commit and torn files are Badger's contract: not modelled.
-/
namespace Mixin.C22
open Mixin.Recovery Mixin.C21

/-- finalization records: every FINALIZATION[t] has its TRANSACTION[t] body and the UTXOs it
    materialised, and names a stored snapshot that contains t and holds a topology position;
    every transaction of a stored snapshot has a FINALIZATION record -/
structure Ledger (kv : KV) : Prop where
  body : ∀ p ∈ kv.fins, ∃ tx, findTx kv p.1 = some tx ∧ ∀ i, i < tx.outs → (kv.utxos.lookup (p.1, i)).isSome = true
  named : ∀ p ∈ kv.fins, ∃ sn, findSnap kv p.2 = some sn ∧ p.1 ∈ sn.txs ∧ ∃ o, (o, p.2) ∈ kv.topo
  finalized : ∀ sn ∈ kv.snaps, ∀ t ∈ sn.txs, (kv.fins.lookup t).isSome = true

/-- TOPOLOGY is sorted by order and SNAPTOPO maps the snapshot of each position back to its order
    (so positions are unique both ways, `topo_unique`), every position names a stored snapshot
    whose transactions are stored, every stored snapshot has a position (these are fields of
    `C21.MInv`), plus the finalization records -/
structure Consistent (kv : KV) : Prop where
  index : MInv kv
  ledger : Ledger kv

/-- topology positions are unique: one snapshot per order, one order per snapshot -/
theorem topo_unique {kv : KV} (h : MInv kv) {o1 o2 s1 s2 : Nat}
    (h1 : (o1, s1) ∈ kv.topo) (h2 : (o2, s2) ∈ kv.topo) : (o1 = o2 ↔ s1 = s2) := by
  constructor
  · rintro rfl
    -- two entries of a strictly ascending list with the same order are the same entry
    have := List.Pairwise.forall_of_forall_of_flip (R := fun a b : Nat × Nat => a.1 = b.1 → a = b) (fun _ _ _ => rfl)
      (h.sorted.imp fun hab he => absurd he (Nat.ne_of_lt hab))
      (h.sorted.imp fun hab he => absurd he.symm (Nat.ne_of_lt hab)) h1 h2 rfl
    exact (Prod.mk.inj this).2
  · rintro rfl
    exact Option.some.inj ((h.idx _ h1).symm.trans (h.idx _ h2))

theorem lookup_cons_isSome {α β : Type} [BEq α] {l : List (α × β)} {k a : α} {b : β}
    (h : (l.lookup k).isSome = true) : (((a, b) :: l).lookup k).isSome = true := by
  rw [List.lookup_cons]
  cases (k == a) <;> simp [h]

theorem lookup_append_isSome {α β : Type} [BEq α] {l1 l2 : List (α × β)} {k : α}
    (h : (l2.lookup k).isSome = true) : ((l1 ++ l2).lookup k).isSome = true := by
  rw [List.lookup_append, Option.isSome_or, h, Bool.or_true]

theorem lockUTXOs_mono (t : Nat) (ins : List (Nat × Nat)) : ∀ {u u' : List ((Nat × Nat) × Nat)},
    lockUTXOs u t ins = some u' → ∀ k, (u.lookup k).isSome = true → (u'.lookup k).isSome = true := by
  induction ins with
  | nil => intro u u' h k hk; cases h; exact hk
  | cons a rest ih =>
    intro u u' h k hk
    unfold lockUTXOs at h
    cases hl : u.lookup a with
    | none => rw [hl] at h; cases h
    | some l =>
      simp only [hl] at h
      split at h
      · cases h
      · exact ih h k (lookup_cons_isSome hk)

theorem Ledger_mono {kv kv' : KV} (hf : kv'.fins = kv.fins) (hs : kv'.snaps = kv.snaps) (ht : kv'.topo = kv.topo)
    (htx : ∀ t tx, findTx kv t = some tx → findTx kv' t = some tx)
    (hu : ∀ k, (kv.utxos.lookup k).isSome = true → (kv'.utxos.lookup k).isSome = true)
    (h : Ledger kv) : Ledger kv' := by
  refine ⟨?_, ?_, ?_⟩
  · intro p hp; rw [hf] at hp
    obtain ⟨tx, h1, h2⟩ := h.body p hp
    exact ⟨tx, htx _ _ h1, fun i hi => hu _ (h2 i hi)⟩
  · intro p hp; rw [hf] at hp
    obtain ⟨sn, h1, h2, h3⟩ := h.named p hp
    exact ⟨sn, by simp only [findSnap, hs]; exact h1, h2, by rw [ht]; exact h3⟩
  · intro sn hsn t htm; rw [hs] at hsn; rw [hf]; exact h.finalized sn hsn t htm

theorem newUtxos_lookup (t outs i : Nat) (u : List ((Nat × Nat) × Nat)) (hi : i < outs) :
    ((newUtxos t outs ++ u).lookup (t, i)).isSome = true := by
  have : (newUtxos t outs).lookup (t, i) = some 0 :=
    lookup_map_range (fun i => (t, i)) (fun _ => 0) (fun _ _ h => (Prod.mk.inj h).2) hi
  rw [List.lookup_append, this]; rfl

/-- what the finalization loop over `l` (for snapshot `s`) did to FINALIZATION and UTXO -/
structure FinFacts (kv k1 : KV) (s : Snap) (l : List Nat) : Prop where
  fins : ∀ p ∈ k1.fins, p ∈ kv.fins ∨ (p.2 = s.id ∧ p.1 ∈ l ∧ ∃ tx, findTx kv p.1 = some tx ∧
            ∀ i, i < tx.outs → (k1.utxos.lookup (p.1, i)).isSome = true)
  utxos : ∀ k, (kv.utxos.lookup k).isSome = true → (k1.utxos.lookup k).isSome = true
  keep : ∀ t, (kv.fins.lookup t).isSome = true → (k1.fins.lookup t).isSome = true
  all : ∀ t ∈ l, (k1.fins.lookup t).isSome = true

theorem finalizeOne_facts (kv : KV) (s : Snap) {t : Nat} {tx : Tx} (htx : findTx kv t = some tx) :
    FinFacts kv (finalizeOne kv s tx) s [t] := by
  obtain rfl := findTx_id htx
  unfold finalizeOne
  by_cases hf : (kv.fins.lookup tx.id).isSome = true
  · rw [if_pos hf]
    exact ⟨fun p hp => Or.inl hp, fun _ hk => hk, fun _ hk => hk, fun x hx => by rw [List.mem_singleton.mp hx]; exact hf⟩
  · rw [if_neg hf]
    refine ⟨fun p hp => ?_, fun k hk => lookup_append_isSome hk, fun x hx => lookup_cons_isSome hx,
      fun x hx => by rw [List.mem_singleton.mp hx]; simp⟩
    rcases List.mem_cons.mp hp with rfl | hp
    · exact Or.inr ⟨rfl, List.mem_singleton_self _, tx, htx, fun i hi => newUtxos_lookup _ _ _ _ hi⟩
    · exact Or.inl hp

theorem finalizeAll_facts (s : Snap) (l : List Nat) : ∀ {kv kv1 : KV}, finalizeAll kv s l = some kv1 →
    FinFacts kv kv1 s l := by
  induction l with
  | nil =>
    intro kv kv1 h; cases h
    exact ⟨fun p hp => Or.inl hp, fun _ hk => hk, fun _ hk => hk, fun _ hx => nomatch hx⟩
  | cons t rest ih =>
    intro kv kv1 h
    unfold finalizeAll at h
    cases htx : findTx kv t with
    | none => rw [htx] at h; cases h
    | some tx =>
      rw [htx] at h
      have f1 := finalizeOne_facts kv s htx
      have f2 := ih h
      refine ⟨fun p hp => ?_, fun k hk => f2.utxos k (f1.utxos k hk), fun x hx => f2.keep x (f1.keep x hx),
        fun x hx => ?_⟩
      · -- `finalizeOne` leaves TRANSACTION alone, so a body found after it was found before
        have hsame : ∀ x, findTx (finalizeOne kv s tx) x = findTx kv x := by
          intro x; unfold finalizeOne; split <;> rfl
        rcases f2.fins p hp with h1 | ⟨h1, h2, tx', h3, h4⟩
        · rcases f1.fins p h1 with h5 | ⟨h5, h6, tx', h7, h8⟩
          · exact Or.inl h5
          · exact Or.inr ⟨h5, List.mem_cons.mpr (Or.inl (List.mem_singleton.mp h6)), tx', h7,
              fun i hi => f2.utxos _ (h8 i hi)⟩
        · exact Or.inr ⟨h1, List.mem_cons_of_mem _ h2, tx', (hsame _).symm.trans h3, h4⟩
      · rcases List.mem_cons.mp hx with rfl | hx
        · exact f2.keep _ (f1.all _ (List.mem_singleton_self _))
        · exact f2.all x hx

theorem Ledger_snap {kv kv' : KV} {s : Snap} {o : Nat} (hstep : writeSnapshot kv s o = .ok kv')
    (hnext : ∀ e ∈ kv.topo, e.1 < o) (h : Ledger kv) : Ledger kv' := by
  obtain ⟨hx, hfs_new, _⟩ := writeSnapshot_reads hstep hnext
  obtain ⟨_, f, u, q, _, _, _, _, hfa, rfl⟩ := writeSnapshot_ok hstep hnext
  have ff := finalizeAll_facts _ _ hfa
  refine ⟨fun p hp => ?_, fun p hp => ?_, fun sn hsn t ht => ?_⟩
  · rcases ff.fins p hp with h1 | ⟨_, _, tx, h3, h4⟩
    · obtain ⟨tx, a, b⟩ := h.body p h1
      exact ⟨tx, a, fun i hi => ff.utxos _ (b i hi)⟩
    · exact ⟨tx, h3, h4⟩
  · rcases ff.fins p hp with h1 | ⟨h1, h2, _⟩
    · obtain ⟨sn, a, b, o', c⟩ := h.named p h1
      exact ⟨sn, hx.snap a, b, o', List.mem_append.mpr (Or.inl c)⟩
    · exact ⟨s, by rw [h1]; exact hfs_new, h2, o, by rw [h1]; exact List.mem_append.mpr (Or.inr (List.mem_singleton_self _))⟩
  · rcases List.mem_append.mp hsn with hsn | hsn
    · exact ff.keep t (h.finalized sn hsn t ht)
    · rw [List.mem_singleton.mp hsn] at ht; exact ff.all t ht

/-- Every storage call that commits (atomically) takes a consistent
    durable state to a consistent one; so do the kernel's marker write and a restart. -/
theorem op_preserves_consistent {kv kv' : KV} (hs : Step kv kv') (h : Consistent kv) : Consistent kv' := by
  refine ⟨step_inv hs h.index, ?_⟩
  cases hs with
  | lock h1 =>
    obtain ⟨_, _, u, rfl, hu⟩ := lockInputs_ok h1
    refine Ledger_mono (kv := kv) rfl rfl rfl (fun _ _ hx => hx) (fun k hk => ?_) h.ledger
    rcases hu with rfl | hu
    · exact hk
    · exact lockUTXOs_mono _ _ hu k hk
  | wtx h1 =>
    rcases writeTx_ok h1 with rfl | rfl
    · exact h.ledger
    · exact Ledger_mono (kv := kv) rfl rfl rfl (fun _ _ hx => findTx_append hx) (fun _ hk => hk) h.ledger
  | round h1 =>
    obtain ⟨_, _, _, _, rfl⟩ := startNewRound_ok h1
    exact ⟨h.ledger.body, h.ledger.named, h.ledger.finalized⟩
  | snap h1 hp => exact Ledger_snap h1 hp.next h.ledger
  | mark h1 =>
    obtain ⟨_, rfl⟩ := (markSnap_ok h.index h1).1
    exact ⟨h.ledger.body, h.ledger.named, h.ledger.finalized⟩
  | restart h1 =>
    obtain ⟨_, rfl⟩ := (setupRepair_ok h.index h1).1
    exact ⟨h.ledger.body, h.ledger.named, h.ledger.finalized⟩

theorem genesis_ledger (n : Nat) : Ledger (genesis n) := by
  have hf : ∀ p ∈ (genesis n).fins, ∃ i, i ≤ n ∧ p = (i + 1, i + 1) := by
    intro p hp
    obtain ⟨i, hi, rfl⟩ := List.mem_map.mp hp
    exact ⟨i, Nat.le_of_lt_succ (List.mem_range.mp hi), rfl⟩
  refine ⟨fun p hp => ?_, fun p hp => ?_, fun sn hsn t ht => ?_⟩
  · obtain ⟨i, hi, rfl⟩ := hf p hp
    refine ⟨_, genesis_findTx n i hi, fun j hj => ?_⟩
    obtain rfl : j = 0 := Nat.lt_one_iff.mp hj
    have : (genesis n).utxos.lookup (i + 1, 0) = some 0 :=
      lookup_map_range (fun i => (i + 1, 0)) (fun _ => 0) (fun _ _ h => Nat.succ.inj (Prod.mk.inj h).1)
        (Nat.lt_succ_of_le hi)
    rw [this]; rfl
  · obtain ⟨i, hi, rfl⟩ := hf p hp
    obtain ⟨sn, h1, h2⟩ := genesis_findSnap n i hi
    exact ⟨sn, h1, by rw [h2]; exact List.mem_singleton_self _, i, genesis_topo_mem hi⟩
  · obtain ⟨i, hi, _, htx⟩ := genesis_snaps hsn
    rw [htx, List.mem_singleton] at ht; subst ht
    have : (genesis n).fins.lookup (i + 1) = some (i + 1) :=
      lookup_map_range (· + 1) (· + 1) (fun _ _ h => Nat.succ.inj h) (Nat.lt_succ_of_le hi)
    rw [this]; rfl

/-- The durable state at every cut point of every write sequence
    (every reachable state) is consistent. -/
theorem every_prefix_consistent {kv : KV} (hr : Reach kv) : Consistent kv := by
  induction hr with
  | genesis n => exact ⟨genesis_inv n, genesis_ledger n⟩
  | step _ hs ih => exact op_preserves_consistent hs ih

/-- Every finalized transaction keeps its stored body, its outputs and a finalization record
    naming a stored snapshot that contains it and owns exactly one topology position. -/
theorem finalized_keeps {kv : KV} (hr : Reach kv) {t s : Nat} (hf : (t, s) ∈ kv.fins) :
    (∃ tx, findTx kv t = some tx ∧ ∀ i, i < tx.outs → (kv.utxos.lookup (t, i)).isSome = true) ∧
    (∃ sn o, findSnap kv s = some sn ∧ t ∈ sn.txs ∧ (o, s) ∈ kv.topo ∧ ∀ o', (o', s) ∈ kv.topo → o' = o) := by
  have h := every_prefix_consistent hr
  refine ⟨h.ledger.body _ hf, ?_⟩
  obtain ⟨sn, h1, h2, o, h3⟩ := h.ledger.named _ hf
  exact ⟨sn, o, h1, h2, h3, fun o' ho' => (topo_unique h.index ho' h3).mpr rfl⟩

example : Consistent w6 := every_prefix_consistent witness_reach

/-- ROUND records: the head record of a chain names that chain and is past round 0; every round
    below the head holds snapshots and has its ROUND record, stored under the hash of exactly
    those snapshots, with matching chain and number -/
structure RInv (kv : KV) : Prop where
  head : ∀ c h, kv.rounds.lookup (.head c) = some h → h.node = c ∧ 1 ≤ h.number
  below : ∀ c h, kv.rounds.lookup (.head c) = some h → ∀ i, i < h.number →
    roundSnaps kv c i ≠ [] ∧
    ∃ r, kv.rounds.lookup (.final c i ((roundSnaps kv c i).map (·.id))) = some r ∧ r.node = c ∧ r.number = i

theorem mem_insertByTs {s x : Snap} {l : List Snap} : x ∈ insertByTs s l ↔ x = s ∨ x ∈ l := by
  induction l with
  | nil => simp [insertByTs]
  | cons a t ih =>
    unfold insertByTs
    split
    · simp
    · simp only [List.mem_cons, ih]
      exact or_left_comm

theorem mem_sortByTs {x : Snap} {l : List Snap} : x ∈ sortByTs l ↔ x ∈ l := by
  induction l with
  | nil => simp [sortByTs]
  | cons a t ih =>
    simp only [sortByTs, List.foldr_cons] at ih ⊢
    rw [mem_insertByTs, ih, List.mem_cons]

theorem mem_roundSnaps {kv : KV} {c i : Nat} {x : Snap} (h : x ∈ roundSnaps kv c i) : x ∈ kv.snaps := by
  unfold roundSnaps at h
  exact (List.mem_filter.mp (mem_sortByTs.mp h)).1

theorem validateTx_ok {kv : KV} (h : Consistent kv) {sn : Snap} (hsn : sn ∈ kv.snaps) {t : Nat} (ht : t ∈ sn.txs) :
    validateTx kv t = some false := by
  have hfin := h.ledger.finalized sn hsn t ht
  obtain ⟨dup, hdup⟩ := Option.isSome_iff_exists.mp hfin
  have hmem : (t, dup) ∈ kv.fins := mem_of_lookup hdup
  obtain ⟨tx, htx, _⟩ := h.ledger.body _ hmem
  obtain ⟨dsn, hds, htin, o, ho⟩ := h.ledger.named _ hmem
  have hidx := h.index.idx _ ho
  have htopo : kv.topo.lookup o = some dup := lookup_unique ho fun v hv => (topo_unique h.index hv ho).mp rfl
  unfold validateTx
  simp only at htx hds hidx
  simp only [htx, hdup, hidx, htopo, hds]
  simp [htin]

theorem validateTxs_ok {kv : KV} (l : List Nat) (h : ∀ t ∈ l, validateTx kv t = some false) :
    validateTxs kv l = some (l.length, 0) := by
  induction l with
  | nil => rfl
  | cons t rest ih =>
    simp [validateTxs, h t List.mem_cons_self, ih fun x hx => h x (List.mem_cons_of_mem _ hx)]

theorem validateRound_ok {kv : KV} (h : Consistent kv) (hr : RInv kv) {c i : Nat} {hd : Round}
    (hh : kv.rounds.lookup (.head c) = some hd) (hi : i < hd.number) :
    ∃ tot, validateRound kv c i = some (tot, 0) := by
  obtain ⟨hne, r, hr1, hr2, hr3⟩ := hr.below c hd hh i hi
  have htxs : ∀ t ∈ (roundSnaps kv c i).flatMap (·.txs), validateTx kv t = some false := by
    intro t ht
    obtain ⟨sn, hsn, htm⟩ := List.mem_flatMap.mp ht
    exact validateTx_ok h (mem_roundSnaps hsn) htm
  unfold validateRound
  simp only [validateTxs_ok _ htxs, hr1]
  simp [List.isEmpty_eq_false_iff.mpr hne, hr2, hr3]

theorem validateRounds_ok {kv : KV} (h : Consistent kv) (hr : RInv kv) {c : Nat} {hd : Round}
    (hh : kv.rounds.lookup (.head c) = some hd) (l : List Nat) (hl : ∀ i ∈ l, i < hd.number) :
    ∃ tot, validateRounds kv c l = some (tot, 0) := by
  induction l with
  | nil => exact ⟨0, rfl⟩
  | cons i rest ih =>
    obtain ⟨a, ha⟩ := validateRound_ok h hr hh (hl i List.mem_cons_self)
    obtain ⟨b, hb⟩ := ih fun x hx => hl x (List.mem_cons_of_mem _ hx)
    exact ⟨a + b, by simp [validateRounds, ha, hb]⟩

theorem validateChain_ok {kv : KV} (h : Consistent kv) (hr : RInv kv) (depth c : Nat) :
    ∃ tot, validateChain kv depth c = some (tot, 0) := by
  unfold validateChain
  cases hh : kv.rounds.lookup (.head c) with
  | none => exact ⟨0, rfl⟩
  | some hd => exact validateRounds_ok h hr hh _ fun i hi => List.mem_range.mp (List.mem_filter.mp hi).1

theorem validateChains_ok {kv : KV} (h : Consistent kv) (hr : RInv kv) (depth : Nat) (l : List Nat) :
    ∃ tot, validateChains kv depth l = some (tot, 0) := by
  induction l with
  | nil => exact ⟨0, rfl⟩
  | cons c rest ih =>
    obtain ⟨a, ha⟩ := validateChain_ok h hr depth c
    obtain ⟨b, hb⟩ := ih
    exact ⟨a + b, by simp [validateChains, ha, hb]⟩

/-- on a consistent store whose ROUND records are in order, `ValidateGraphEntries` reports no
    invalid entry, at every depth -/
theorem validate_ok {kv : KV} (h : Consistent kv) (hr : RInv kv) (depth : Nat) :
    ∃ total, validateGraph kv depth = some (total, 0) :=
  validateChains_ok h hr depth _

theorem chainsLoad_ok {kv : KV} (hr : RInv kv) : chainsLoad kv = true := by
  unfold chainsLoad
  simp only [List.all_eq_true]
  intro c _
  cases hh : kv.rounds.lookup (.head c) with
  | none => rfl
  | some hd =>
    obtain ⟨_, h1⟩ := hr.head c hd hh
    obtain ⟨hne, _⟩ := hr.below c hd hh (hd.number - 1) (by omega)
    have h0 : (hd.number != 0) = true := by simp; omega
    simp [List.isEmpty_eq_false_iff.mpr hne, h0]

theorem RInv_frame {kv kv' : KV} (hr : kv'.rounds = kv.rounds) (hs : kv'.snaps = kv.snaps) (h : RInv kv) : RInv kv' := by
  refine ⟨?_, ?_⟩
  · intro c hd hh; rw [hr] at hh; exact h.head c hd hh
  · intro c hd hh i hi; rw [hr] at hh
    simp only [roundSnaps, hs, hr]; exact h.below c hd hh i hi

/-- the round-transition discipline: the new final round is the set of snapshots stored in the
    head round (the kernel hashes its cache round, `CacheRound.asFinal`, which is nil when empty) -/
structure RoundProto (kv : KV) (c n : Nat) (sf : RKey) : Prop where
  key : sf = .final c (n - 1) ((roundSnaps kv c (n - 1)).map (·.id))
  nonempty : roundSnaps kv c (n - 1) ≠ []

theorem RInv_round {kv kv' : KV} {c n : Nat} {self ext : RKey} (hstep : startNewRound kv c n self ext = .ok kv')
    (hp : RoundProto kv c n self) (h : RInv kv) : RInv kv' := by
  obtain ⟨hd, l, hh, rfl, rfl⟩ := startNewRound_ok hstep
  obtain ⟨hself, hne⟩ := hp
  rw [Nat.add_sub_cancel] at hself hne
  obtain ⟨hdn, _⟩ := h.head c hd hh
  -- the ROUND records after the call: the new head of `c`, the old head filed under `self`
  have look_head : ∀ h' {c'}, c' ≠ c →
      ((RKey.head c, h') :: (self, hd) :: kv.rounds).lookup (.head c') = kv.rounds.lookup (.head c') := by
    intro h' c' hc
    rw [lookup_cons_ne _ (by simp [hc]), lookup_cons_ne _ (by simp [hself])]
  have look_final : ∀ h' c' i l, (c' ≠ c ∨ i ≠ hd.number) →
      ((RKey.head c, h') :: (self, hd) :: kv.rounds).lookup (.final c' i l) = kv.rounds.lookup (.final c' i l) := by
    intro h' c' i l hne
    rw [lookup_cons_ne _ (by simp), lookup_cons_ne]
    rw [hself]; intro heq; injection heq with a b _
    exact hne.elim (fun h => h a) (fun h => h b)
  refine ⟨fun c' h' hl => ?_, fun c' h' hl i hi => ?_⟩
  · by_cases hc : c' = c
    · subst hc; rw [List.lookup_cons_self] at hl; cases hl; exact ⟨rfl, Nat.le_add_left 1 _⟩
    · rw [look_head _ hc] at hl; exact h.head c' h' hl
  · show roundSnaps kv c' i ≠ [] ∧ ∃ r, List.lookup (RKey.final c' i ((roundSnaps kv c' i).map (·.id))) _ = some r ∧ _
    by_cases hc : c' = c
    · subst hc; rw [List.lookup_cons_self] at hl; cases hl
      by_cases hlt : i < hd.number
      · rw [look_final _ _ _ _ (Or.inr (Nat.ne_of_lt hlt))]; exact h.below c' hd hh i hlt
      · obtain rfl : i = hd.number := Nat.le_antisymm (Nat.le_of_lt_succ hi) (Nat.le_of_not_lt hlt)
        exact ⟨hne, hd, by rw [lookup_cons_ne _ (by simp), ← hself, List.lookup_cons_self], hdn, rfl⟩
    · rw [look_head _ hc] at hl
      rw [look_final _ _ _ _ (Or.inl hc)]; exact h.below c' h' hl i hi

theorem RInv_snap {kv kv' : KV} {s : Snap} {o : Nat} (hstep : writeSnapshot kv s o = .ok kv')
    (hnext : ∀ e ∈ kv.topo, e.1 < o) (h : RInv kv) : RInv kv' := by
  obtain ⟨hd, f, u, q, hh, hnum, _, _, _, rfl⟩ := writeSnapshot_ok hstep hnext
  -- the new snapshot sits in the head round of its chain: the rounds below a head are as before
  have hrs : ∀ c hd', kv.rounds.lookup (.head c) = some hd' → ∀ i, i < hd'.number →
      sortByTs ((kv.snaps ++ [s]).filter (fun x => x.node == c && x.round == i)) = roundSnaps kv c i := by
    intro c hd' hh' i hi
    have hs : (s.node == c && s.round == i) = false := by
      by_cases hc : s.node = c
      · subst hc
        obtain rfl : hd = hd' := Option.some.inj (hh.symm.trans hh')
        have : s.round ≠ i := Nat.ne_of_gt (hnum ▸ hi)
        simp [this]
      · simp [hc]
    rw [List.filter_append, List.filter_cons_of_neg (by rw [hs]; exact Bool.false_ne_true), List.filter_nil,
      List.append_nil]; rfl
  refine ⟨h.head, fun c hd' hl i hi => ?_⟩
  show sortByTs _ ≠ [] ∧ ∃ r, List.lookup (RKey.final c i ((sortByTs _).map (·.id))) kv.rounds = some r ∧ _
  rw [hrs c hd' hl i hi]; exact h.below c hd' hl i hi

theorem genesis_roundSnaps (n c : Nat) (hc : c < n) :
    (roundSnaps (genesis n) c 0).map (·.id) = genesisSnapIds n c ∧ roundSnaps (genesis n) c 0 ≠ [] := by
  let f (c' : Nat) : Snap := { id := c' + 1, node := c', round := 0, ts := 0, txs := [c' + 1] }
  have hf : ((List.range n).map f).filter (fun s => s.node == c && s.round == 0) = [f c] := by
    have : ((fun s : Snap => s.node == c && s.round == 0) ∘ f) = (· == c) := by
      funext x; simp [f]
    rw [List.filter_map, this, List.filter_beq, List.count_range, if_pos hc]; rfl
  unfold roundSnaps
  simp only [genesis, List.filter_append]
  rw [hf]
  by_cases h0 : c = 0
  · subst h0
    simp [sortByTs, insertByTs, genesisSnapIds, f]
  · have : ((0 : Nat) == c) = false := beq_false_of_ne (Ne.symm h0)
    simp [sortByTs, insertByTs, genesisSnapIds, this, h0, f]

theorem genesis_rounds_mem (n : Nat) {k : RKey} {r : Round} (h : (k, r) ∈ (genesis n).rounds) :
    ∃ c, c < n ∧ ((k = .head c ∧ r.node = c ∧ r.number = 1) ∨
      (k = .final c 0 (genesisSnapIds n c) ∧ r = { node := c, number := 0, self := none, ext := none })) := by
  simp only [genesis, List.mem_flatMap, List.mem_range, List.mem_cons, List.mem_nil_iff, or_false] at h
  obtain ⟨c, hc, h1 | h1⟩ := h
  · cases h1; exact ⟨c, hc, Or.inl ⟨rfl, rfl, rfl⟩⟩
  · cases h1; exact ⟨c, hc, Or.inr ⟨rfl, rfl⟩⟩

theorem genesis_rinv (n : Nat) : RInv (genesis n) := by
  have head : ∀ {c hd}, (genesis n).rounds.lookup (.head c) = some hd → c < n ∧ hd.node = c ∧ hd.number = 1 := by
    intro c hd hl
    obtain ⟨c', hc', ⟨a, b, d⟩ | ⟨a, _⟩⟩ := genesis_rounds_mem n (mem_of_lookup hl)
    · cases a; exact ⟨hc', b, d⟩
    · cases a
  refine ⟨fun c hd hl => ⟨(head hl).2.1, Nat.le_of_eq (head hl).2.2.symm⟩, fun c hd hl i hi => ?_⟩
  obtain ⟨hc, _, hnum⟩ := head hl
  obtain rfl : i = 0 := Nat.lt_one_iff.mp (hnum ▸ hi)
  obtain ⟨g1, g2⟩ := genesis_roundSnaps n c hc
  refine ⟨g2, { node := c, number := 0, self := none, ext := none }, ?_, rfl, rfl⟩
  rw [g1]
  refine lookup_unique (List.mem_flatMap.mpr ⟨c, List.mem_range.mpr hc, List.mem_cons_of_mem _ List.mem_cons_self⟩)
    fun v hv => ?_
  obtain ⟨c2, _, ⟨a, _⟩ | ⟨a, b⟩⟩ := genesis_rounds_mem n hv
  · cases a
  · injection a with a1 _ _
    rw [b, a1]

/-- one durable write, with the finalization discipline of C21 and the round-transition
    discipline `RoundProto` -/
inductive LStep : KV → KV → Prop where
  | lock {kv kv' : KV} {t : Tx} : lockInputs kv t = .ok kv' → LStep kv kv'
  | wtx {kv kv' : KV} {t : Tx} : writeTx kv t = .ok kv' → LStep kv kv'
  | round {kv kv' : KV} {c n : Nat} {self ext : RKey} : startNewRound kv c n self ext = .ok kv' →
      RoundProto kv c n self → LStep kv kv'
  | snap {kv kv' : KV} {s : Snap} {o : Nat} : writeSnapshot kv s o = .ok kv' → SnapProto kv s o → LStep kv kv'
  | mark {kv kv' : KV} {sid : Nat} : markSnap kv sid = .ok kv' → LStep kv kv'
  | restart {kv kv' : KV} : setupRepair kv = .ok kv' → LStep kv kv'

inductive LReach : KV → Prop where
  | genesis (n : Nat) : LReach (genesis n)
  | step {kv kv' : KV} : LReach kv → LStep kv kv' → LReach kv'

theorem LStep.toStep {kv kv' : KV} (h : LStep kv kv') : Step kv kv' := by
  cases h with
  | lock h1 => exact Step.lock h1
  | wtx h1 => exact Step.wtx h1
  | round h1 _ => exact Step.round h1
  | snap h1 hp => exact Step.snap h1 hp
  | mark h1 => exact Step.mark h1
  | restart h1 => exact Step.restart h1

theorem LReach.toReach {kv : KV} (h : LReach kv) : Reach kv := by
  induction h with
  | genesis n => exact Reach.genesis n
  | step _ hs ih => exact Reach.step ih hs.toStep

theorem advance_rounds (kv : KV) (sn : Snap) (tx : Tx) :
    (advance kv sn tx).rounds = kv.rounds ∧ (advance kv sn tx).snaps = kv.snaps := ⟨rfl, rfl⟩

theorem lstep_rinv {kv kv' : KV} (hs : LStep kv kv') (hc : Consistent kv) (h : RInv kv) : RInv kv' := by
  cases hs with
  | lock h1 => obtain ⟨_, _, _, rfl, _⟩ := lockInputs_ok h1; exact RInv_frame (kv := kv) rfl rfl h
  | wtx h1 =>
    rcases writeTx_ok h1 with rfl | rfl
    · exact h
    · exact RInv_frame (kv := kv) rfl rfl h
  | round h1 hp => exact RInv_round h1 hp h
  | snap h1 hp => exact RInv_snap h1 hp.next h
  | mark h1 => obtain ⟨_, rfl⟩ := (markSnap_ok hc.index h1).1; exact RInv_frame (kv := kv) rfl rfl h
  | restart h1 => obtain ⟨_, rfl⟩ := (setupRepair_ok hc.index h1).1; exact RInv_frame (kv := kv) rfl rfl h

theorem lreach_rinv {kv : KV} (hr : LReach kv) : RInv kv := by
  induction hr with
  | genesis n => exact genesis_rinv n
  | step hr' hs ih => exact lstep_rinv hs (every_prefix_consistent hr'.toReach) ih

/-- the part of the restart that does not read the ROUND records: `LastSnapshot` succeeds, the
    marker repair walk succeeds, and the repaired state is consistent again -/
theorem restart_ok_partial {kv : KV} (h : Consistent kv) :
    ∃ e kv1, kv.topo.getLast? = some e ∧ lastSnapshotOk kv = true ∧ setupRepair kv = .ok kv1 ∧ Consistent kv1 := by
  obtain ⟨kv1, _, h1, _⟩ := setupRepair_spec h.index
  obtain ⟨e, he⟩ := h.index.last
  obtain ⟨sn, hsn, _⟩ := h.index.wf e (List.mem_of_getLast? he)
  exact ⟨e, kv1, he, by simp [lastSnapshotOk, he, hsn], h1, op_preserves_consistent (Step.restart h1) h⟩

/-- On a consistent durable state whose ROUND records are in
    order, every modelled step of `kernel.SetupNode` succeeds: `LastSnapshot` finds the last
    entry, `ValidateGraphEntries(…, 10)` reports no invalid entry, the marker repair succeeds,
    every chain loads its final round; the restarted state is consistent again and the topology
    counter is the last order. -/
theorem restart_ok {kv : KV} (h : Consistent kv) (hr : RInv kv) :
    ∃ r, restart kv = some r ∧ Consistent r.kv ∧ RInv r.kv ∧
      validateGraph kv 10 = some (r.total, 0) ∧ kv.topo.getLast?.map (·.1) = some r.topoCounter := by
  obtain ⟨e, kv1, he, hl, h1, hc1⟩ := restart_ok_partial h
  obtain ⟨total, hv⟩ := validate_ok h hr 10
  have hr1 : RInv kv1 := lstep_rinv (LStep.restart h1) h hr
  have hload := chainsLoad_ok hr1
  refine ⟨{ kv := kv1, topoCounter := e.1, total := total }, ?_, hc1, hr1, hv, by simp [he]⟩
  unfold restart
  simp [hl, hv, h1, hload, he]

/-- Every cut point restarts: stop after any sequence of durable writes that follow the
    finalization and round-transition disciplines (restarts included); the node restarts and its
    graph validator reports no invalid entries. -/
theorem restart_ok_every_prefix {kv : KV} (hr : LReach kv) :
    ∃ r, restart kv = some r ∧ ∃ total, validateGraph kv 10 = some (total, 0) := by
  obtain ⟨r, h1, _, _, h2, _⟩ := restart_ok (every_prefix_consistent hr.toReach) (lreach_rinv hr)
  exact ⟨r, h1, r.total, h2⟩

/- on the witness state of C21 (reachable, a mint and a deposit finalized) the whole modelled
    restart succeeds and the validator reports 8 entries, none invalid -/
example : (restart w6).map (fun r => (r.topoCounter, r.total)) = some (9, 8) := by decide +kernel

/- a store that lost the body of a finalized transaction is rejected by the model's restart
    (the validator returns an error): the predicate is not vacuous -/
example : (restart { w6 with txs := w6.txs.filter (fun t => t.id != 10) }).isNone = true := by decide +kernel

/-! ### non-vacuity: a reachable state with a round transition -/

def wR : RKey := .final 2 1 [10]
def wX : RKey := .final 3 0 [4]
def w7 : KV := runOk (startNewRound w6 2 2 wR wX)

theorem witness_round_reach : LReach w7 :=
  have r1 : LReach w1 := .step (.genesis 7) (.lock (t := wMint) rfl)
  have r2 : LReach w2 := .step r1 (.wtx (t := wMint) rfl)
  have r3 : LReach w3 := .step r2 (.snap (s := wS9) (o := 8) rfl wS9_proto)
  have r4 : LReach w4 := .step r3 (.lock (t := wDep) rfl)
  have r5 : LReach w5 := .step r4 (.wtx (t := wDep) rfl)
  have r6 : LReach w6 := .step r5 (.snap (s := wS10) (o := 9) rfl wS10_proto)
  .step r6 (.round (c := 2) (n := 2) (self := wR) (ext := wX) rfl ⟨by decide, by decide⟩)

/- after the round transition of chain 2 the validator also visits round 1 (9 entries), and the
    whole modelled restart succeeds -/
example : (restart w7).map (fun r => (r.topoCounter, r.total)) = some (9, 9) := by decide +kernel

/- the excluded point of `RoundProto`: a final round recorded under the hash of the wrong
    snapshot set is what the validator reports (MISSING ROUND) — the restart is refused -/
example : (restart (runOk (startNewRound w6 2 2 (.final 2 1 []) wX))).isNone = true := by decide +kernel

/-! ### duplicated finalization: one transaction in snapshots of two chains

`Ledger.finalized` only asks that every transaction of a stored snapshot HAS a FINALIZATION
record, and `Ledger.named` that the record names a stored snapshot containing the transaction —
not that it names the snapshot at hand: `finalizeTransaction` keeps the first one. The model's
validator follows `validateSnapshotEntriesForNode`: a record that names another snapshot is
logged ("DUPLICATED FINALIZATION") and NOT counted invalid; only a named snapshot that does not
contain the transaction is. `validate_ok` / `restart_ok` therefore cover such states without any
extra hypothesis; the state below is one, and it is reachable. -/

def dS10 : Snap := { id := 10, node := 2, round := 1, ts := 1002000000, txs := [9] }
def dDep : Tx := { id := 9, kind := 0, ref0 := 0, outs := 1, key := 1, inputs := [] }
def dS9 : Snap := { id := 9, node := 1, round := 1, ts := 1001000000, txs := [9] }
def d1 : KV := runOk (lockInputs (genesis 7) dDep)
def d2 : KV := runOk (writeTx d1 dDep)
def d3 : KV := runOk (writeSnapshot d2 dS9 8)
def d4 : KV := runOk (writeSnapshot d3 dS10 9)
def d5 : KV := runOk (startNewRound d4 2 2 (.final 2 1 [10]) (.final 3 0 [4]))

theorem duplicate_reach : LReach d5 :=
  have r1 : LReach d1 := .step (.genesis 7) (.lock (t := dDep) rfl)
  have r2 : LReach d2 := .step r1 (.wtx (t := dDep) rfl)
  have r3 : LReach d3 := .step r2 (.snap (s := dS9) (o := 8) rfl
    (.of_ordinary (t := 9) (tx := dDep) (by decide) rfl (by decide) rfl))
  have r4 : LReach d4 := .step r3 (.snap (s := dS10) (o := 9) rfl
    (.of_ordinary (t := 9) (tx := dDep) (by decide) rfl (by decide) rfl))
  .step r4 (.round (c := 2) (n := 2) (self := .final 2 1 [10]) (ext := .final 3 0 [4]) rfl ⟨by decide, by decide⟩)

/-- the second snapshot (10, chain 2) holds transaction 9 whose FINALIZATION names snapshot 9 of
    chain 1, and round 1 of chain 2 is below its head: the validator visits it (9 entries) … -/
theorem duplicate_state : d5.fins.lookup 9 = some 9 ∧ (findSnap d5 10).map (·.txs) = some [9] ∧
    (d5.rounds.lookup (.head 2)).map (·.number) = some 2 := by decide +kernel

/-- … and reports nothing invalid; the node restarts -/
theorem duplicate_restarts : (restart d5).map (fun r => (r.topoCounter, r.total)) = some (9, 9) := by decide +kernel

example : ∃ r, restart d5 = some r ∧ ∃ total, validateGraph d5 10 = some (total, 0) :=
  restart_ok_every_prefix duplicate_reach

end Mixin.C22
