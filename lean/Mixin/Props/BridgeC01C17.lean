import Mixin.Props.C01
import Mixin.Props.C17
/-!
  Bridge C01 → C17.

  C17 (`Mixin.C17.supply_invariant`, model `Mixin.Ledger`) takes per-transaction conservation as the
  hypothesis `Conserving st tx`. C01 (`Mixin.C01.validate_conserves`, model `Mixin.Validate`) proves
  conservation for every transaction the model of `VersionedTransaction.Validate` accepts. This file
  translates a `Validate.Tx` into a `Ledger.Tx` and discharges `Conserving` from acceptance.

  **The translation `toLedgerTx`** keeps: the payload hash (as the transaction id), the asset, per
  input the section that wins in the code (Mint, else Deposit, else Genesis, else the `(hash, index)`
  reference — both models address outputs by `(hash, index)`, so no lookup in the ledger view is
  needed and the `Validate.Ledger` argument is unused), per output type / amount / keys, and the
  references. It **forgets**: version, extra (length, identifiers), signature maps and aggregate
  signature, payload size, the capacity constant, per output mask / script / withdrawal flag, per
  input the deposit's `assetKeyOk` / `txOk` flags and a deposit section or genesis flag shadowed by
  a mint section, the mint group flag. The two oracle bits of `Ledger.Tx` (`sigOk`, `custOk`) are
  set to `true`: the transaction was accepted. Output type bytes outside the nine known codes map to
  `OutType.unknown`.

  **State agreement `Agrees st L tx`** relates the `Ledger` model state (after `LockInputs`) to the
  ledger view `L` the validator read.
-/
namespace Mixin.Bridge
open Mixin.Validate (otScript otWithdrawalSubmit otWithdrawalClaim otNodePledge otNodeAccept otNodeCancel
  otNodeRemove otCustodianUpdate otCustodianSlash)

def toOutType (t : Nat) : Ledger.OutType :=
  if t = otScript then .script
  else if t = otWithdrawalSubmit then .withdrawalSubmit
  else if t = otWithdrawalClaim then .withdrawalClaim
  else if t = otNodePledge then .nodePledge
  else if t = otNodeAccept then .nodeAccept
  else if t = otNodeCancel then .nodeCancel
  else if t = otNodeRemove then .nodeRemove
  else if t = otCustodianUpdate then .custodianUpdate
  else if t = otCustodianSlash then .custodianSlash
  else .unknown

def toOutput (o : Validate.Output) : Ledger.Output := ⟨toOutType o.type, o.amount, o.keys⟩

def toInput (i : Validate.Input) : Ledger.Input :=
  match i.mint with
  | some m => .mint m.batch m.amount
  | none =>
    match i.deposit with
    | some d => .deposit d.uniq d.chain d.assetKey d.amount
    | none => if i.genesis then .genesis else .utxo i.hash i.index

def toLedgerTx (tx : Validate.Tx) (_L : Validate.Ledger) : Ledger.Tx :=
  { id := tx.hash, asset := tx.asset, inputs := tx.inputs.map toInput, outputs := tx.outputs.map toOutput,
    refs := tx.references, sigOk := true, custOk := true }

theorem toInput_mint {x : Validate.Input} {m : Validate.Mint} (h : x.mint = some m) :
    toInput x = .mint m.batch m.amount := by
  unfold toInput; rw [h]

theorem toInput_deposit {x : Validate.Input} {d : Validate.Deposit} (hm : x.mint = none) (h : x.deposit = some d) :
    toInput x = .deposit d.uniq d.chain d.assetKey d.amount := by
  unfold toInput; rw [hm, h]

theorem toInput_ordinary {x : Validate.Input} (h : Validate.Ordinary x) : toInput x = .utxo x.hash x.index := by
  obtain ⟨hg, hm, hd⟩ := h
  unfold toInput; rw [hm, hd, hg]; rfl

/-- an output of the ledger view as an entry of the UTXO family of the `Ledger` model -/
def toEntry (u : Validate.Utxo) : (Nat × Nat) × Ledger.UTXO :=
  ((u.hash, u.index), ⟨u.asset, toOutType u.type, u.amount, u.keys, if u.lock = 0 then none else some u.lock⟩)

/-! ### agreement between the Ledger-model state and the ledger view -/

structure Agrees (st : Ledger.State) (L : Validate.Ledger) (tx : Validate.Tx) : Prop where
  /-- the UTXO family is a map: one entry per `(hash, index)` -/
  nodupKeys : (st.utxo.map (·.1)).Nodup
  /-- every ordinary input's entry shows the asset and amount the validator read, and is locked by
      this transaction (`LockInputs` ran) -/
  inputs : ∀ inp ∈ tx.inputs, inp.mint = none → inp.deposit = none →
    ∀ u, L.utxo inp.hash inp.index = some u →
      ∃ e, Ledger.aget st.utxo (inp.hash, inp.index) = some e ∧ e.asset = u.asset ∧ e.amount = u.amount ∧
        e.lock = some tx.hash
  /-- nothing else is locked by this transaction -/
  only : ∀ p ∈ st.utxo, p.2.lock = some tx.hash →
    ∃ inp ∈ tx.inputs, inp.mint = none ∧ inp.deposit = none ∧ p.1 = (inp.hash, inp.index)

/-! ### sums over the UTXO family selected by key -/

/-- `Ledger.sumIf` with the key visible to the predicate: which entries a transaction has locked is read off
    their `lock` fields, which inputs it has off their keys -/
def sumE (p : (Nat × Nat) × Ledger.UTXO → Bool) : Ledger.Entries → Nat
  | [] => 0
  | e :: r => (if p e then e.2.amount else 0) + sumE p r

theorem sumIf_eq_sumE (f : Ledger.UTXO → Bool) (l : Ledger.Entries) : Ledger.sumIf f l = sumE (fun e => f e.2) l := by
  induction l with
  | nil => rfl
  | cons e r ih => obtain ⟨k, u⟩ := e; simp [Ledger.sumIf, sumE, ih]

theorem sumE_congr {p q : (Nat × Nat) × Ledger.UTXO → Bool} {l : Ledger.Entries} (h : ∀ e ∈ l, p e = q e) :
    sumE p l = sumE q l := by
  induction l with
  | nil => rfl
  | cons e r ih =>
    simp only [sumE, h e (by simp)]
    rw [ih (fun x hx => h x (by simp [hx]))]

theorem sumE_false {l : Ledger.Entries} : sumE (fun _ => false) l = 0 := by
  induction l with
  | nil => rfl
  | cons e r ih => simp [sumE, ih]

/-- what the entry under key `k`, if there is one, contributes -/
def valueAt (g : Ledger.UTXO → Bool) (l : Ledger.Entries) (k : Nat × Nat) : Nat :=
  match Ledger.aget l k with
  | some u => Ledger.contrib g u
  | none => 0

/-- one key split off a selection by keys: with distinct keys in the family, the entry under it is the
    only one selected by it -/
theorem sumE_cons_key (g : Ledger.UTXO → Bool) {l : Ledger.Entries} (hn : (l.map (·.1)).Nodup) {k : Nat × Nat}
    {K : List (Nat × Nat)} (hk : k ∉ K) :
    sumE (fun e => g e.2 && decide (e.1 ∈ k :: K)) l =
      valueAt g l k + sumE (fun e => g e.2 && decide (e.1 ∈ K)) l := by
  induction l with
  | nil => rfl
  | cons e r ih =>
    obtain ⟨k', u'⟩ := e
    rw [List.map_cons, List.nodup_cons] at hn
    by_cases hkk : k' = k
    · subst hkk
      have hr : sumE (fun e => g e.2 && decide (e.1 ∈ k' :: K)) r =
          sumE (fun e => g e.2 && decide (e.1 ∈ K)) r :=
        sumE_congr fun x hx => by
          have : x.1 ≠ k' := fun hc => hn.1 (List.mem_map.2 ⟨x, hx, hc⟩)
          simp [this]
      simp only [sumE, hr]
      simp [valueAt, Ledger.contrib, Ledger.aget, hk]
    · have hv : valueAt g ((k', u') :: r) k = valueAt g r k := by simp [valueAt, Ledger.aget, hkk]
      have hm : decide (k' ∈ k :: K) = decide (k' ∈ K) := by simp [hkk]
      simp only [sumE, hv, ih hn.2, hm]
      omega

theorem sumE_keys (g : Ledger.UTXO → Bool) {l : Ledger.Entries} (hn : (l.map (·.1)).Nodup) :
    ∀ (K : List (Nat × Nat)), K.Nodup →
    sumE (fun e => g e.2 && decide (e.1 ∈ K)) l = (K.map (valueAt g l)).sum
  | [], _ => by simp [sumE_false]
  | k :: K, hK => by
    rw [List.nodup_cons] at hK
    rw [sumE_cons_key g hn hK.1, sumE_keys g hn K hK.2, List.map_cons, List.sum_cons]

/-! ### what the ledger state has locked for the transaction -/

open Mixin.Validate in
theorem lockedBy_none {st : Ledger.State} {L : Validate.Ledger} {tx : Validate.Tx} (hA : Agrees st L tx)
    (hno : ∀ inp ∈ tx.inputs, ¬ (inp.mint = none ∧ inp.deposit = none)) (a : Nat) :
    Ledger.lockedBy st tx.hash a = 0 := by
  unfold Ledger.lockedBy
  rw [sumIf_eq_sumE, ← sumE_false (l := st.utxo)]
  apply sumE_congr
  intro e he
  by_cases hl : e.2.lock = some tx.hash
  · obtain ⟨inp, hi, h1, h2, _⟩ := hA.only e he hl
    exact absurd ⟨h1, h2⟩ (hno inp hi)
  · simp [hl]

open Mixin.Validate in
theorem lockedBy_agrees {st : Ledger.State} {L : Validate.Ledger} {tx : Validate.Tx} (hA : Agrees st L tx)
    (hd : (tx.inputs.map inputKey).Nodup)
    (hall : ∀ inp ∈ tx.inputs, Ordinary inp ∧ ∃ u, L.utxo inp.hash inp.index = some u ∧ u.asset = tx.asset)
    (a : Nat) :
    Ledger.lockedBy st tx.hash a = if a = tx.asset then (tx.inputs.map (inputAmount L)).sum else 0 := by
  have hent : ∀ inp ∈ tx.inputs, ∃ e, Ledger.aget st.utxo (inputKey inp) = some e ∧ e.asset = tx.asset ∧
      e.amount = inputAmount L inp ∧ e.lock = some tx.hash := by
    intro inp hi
    obtain ⟨⟨_, hm, hd⟩, u, hu, hasset⟩ := hall inp hi
    obtain ⟨e, hg, ha, hamt, hl⟩ := hA.inputs inp hi hm hd u hu
    refine ⟨e, hg, ha.trans hasset, ?_, hl⟩
    unfold inputAmount
    rw [hm, hd, hu]
    exact hamt
  -- the entries locked by the transaction are those under the keys of its inputs
  have hpt : ∀ e ∈ st.utxo, (decide (e.2.asset = a) && decide (e.2.lock = some tx.hash)) =
      (decide (e.2.asset = a) && decide (e.1 ∈ tx.inputs.map inputKey)) := by
    intro e he
    congr 1
    refine decide_eq_decide.2 ⟨fun hl => ?_, fun hk => ?_⟩
    · obtain ⟨inp, hi, _, _, hk⟩ := hA.only e he hl
      exact List.mem_map.2 ⟨inp, hi, hk.symm⟩
    · obtain ⟨inp, hi, hkk⟩ := List.mem_map.1 hk
      obtain ⟨e', hg, _, _, hl⟩ := hent inp hi
      rw [hkk, Ledger.aget_of_mem hA.nodupKeys he] at hg
      cases hg
      exact hl
  have hterm : ∀ inp ∈ tx.inputs, (valueAt (fun u => decide (u.asset = a)) st.utxo ∘ inputKey) inp =
      if a = tx.asset then inputAmount L inp else 0 := by
    intro inp hi
    obtain ⟨e, hg, ha, hamt, _⟩ := hent inp hi
    simp only [Function.comp, valueAt, Ledger.contrib, hg, ha, hamt, decide_eq_true_eq, @eq_comm _ tx.asset a]
  unfold Ledger.lockedBy
  rw [sumIf_eq_sumE, sumE_congr hpt, sumE_keys (fun u => decide (u.asset = a)) hA.nodupKeys _ hd, List.map_map,
    List.map_congr_left hterm]
  by_cases e : a = tx.asset
  · simp [e]
  · simp [e, List.sum_eq_zero_iff_forall_eq_nat]

/-! ### output sums of the translation -/

theorem toOutType_script : toOutType otScript = .script := by decide
theorem toOutType_submit : toOutType otWithdrawalSubmit = .withdrawalSubmit := by decide

theorem matSum_all {outs : List Validate.Output}
    (h : ∀ x ∈ outs, Ledger.materialised (toOutType x.type) = some true) :
    Ledger.matSum (outs.map toOutput) = (outs.map (·.amount)).sum := by
  induction outs with
  | nil => rfl
  | cons o r ih =>
    have ho := h o (by simp)
    simp [Ledger.matSum, toOutput, ho, ih (fun x hx => h x (by simp [hx]))]

/-- what is materialised is not a withdrawal submission, so nothing of it is burnt -/
theorem submitSum_none {outs : List Validate.Output}
    (h : ∀ x ∈ outs, Ledger.materialised (toOutType x.type) = some true) :
    Ledger.submitSum (outs.map toOutput) = 0 := by
  induction outs with
  | nil => rfl
  | cons o r ih =>
    have ho : toOutType o.type ≠ .withdrawalSubmit := fun hc => by
      have := h o (by simp)
      rw [hc] at this
      cases this
    simp [Ledger.submitSum, toOutput, ho, ih (fun x hx => h x (by simp [hx]))]

open Mixin.Validate in
theorem inputsType_ordinary {ins : List Validate.Input} (h : ∀ inp ∈ ins, Ordinary inp) :
    Ledger.inputsType (ins.map toInput) = none := by
  induction ins with
  | nil => rfl
  | cons x r ih =>
    rw [List.map_cons, toInput_ordinary (h x List.mem_cons_self)]
    exact ih fun y hy => h y (List.mem_cons_of_mem _ hy)

/-! ### the output types of an accepted transaction -/

open Mixin.Validate in
theorem special_materialised {t : Nat} (hs : isSpecialOutput t = true)
    (h1 : outputTxType t ≠ ttWithdrawalSubmit) (h2 : outputTxType t ≠ ttCustodianSlash) :
    Ledger.materialised (toOutType t) = some true := by
  -- of the eight special types, `UnspentOutputs` skips exactly withdrawal submit and custodian slash
  rcases isSpecialOutput_iff.1 hs with rfl | rfl | rfl | rfl | rfl | rfl | rfl | rfl
  · exact absurd rfl h1
  · decide
  · decide
  · decide
  · decide
  · decide
  · decide
  · exact absurd rfl h2

open Mixin.Validate in
theorem single_node_output {tx : Validate.Tx} {T : Nat} (ht : txType tx = T)
    (hT : T = ttNodePledge ∨ T = ttNodeAccept ∨ T = ttNodeRemove) (h1 : ∃ o, tx.outputs = [o]) :
    ∀ x ∈ tx.outputs, Ledger.materialised (toOutType x.type) = some true := by
  obtain ⟨o, ho⟩ := h1
  have key : ∀ {n : Nat}, (ttNodePledge ≠ n ∧ ttNodeAccept ≠ n ∧ ttNodeRemove ≠ n) → T ≠ n := by
    rintro n ⟨a, b, c⟩
    rcases hT with rfl | rfl | rfl <;> assumption
  have hto := txType_eq_typeOfOutputs (ht ▸ key (by decide)) (ht ▸ key (by decide)) (ht ▸ key (by decide))
  rw [ht, ho] at hto
  obtain ⟨hsp, he⟩ := typeOfOutputs_single hto.symm (key (by decide)) (key (by decide))
  rw [ho]
  exact List.forall_mem_singleton.2 (special_materialised hsp (he ▸ key (by decide)) (he ▸ key (by decide)))

open Mixin.Validate in
/-- **Output types of an accepted transaction.** Either it is a withdrawal submission (first output
    of submit type, every other output a script output), or every output is of a type that
    `UnspentOutputs` materialises. -/
theorem accepted_output_shape {L : Validate.Ledger} {O : Oracle} {tx : Validate.Tx} {fork : Bool} {i o : Nat}
    (h : Validate.validate L O tx fork = .accept i o) :
    (txType tx = ttWithdrawalSubmit ∧ ∃ s r, tx.outputs = s :: r ∧ s.type = otWithdrawalSubmit ∧
        ∀ x ∈ r, x.type = otScript) ∨
    (txType tx ≠ ttWithdrawalSubmit ∧ ∀ x ∈ tx.outputs, Ledger.materialised (toOutType x.type) = some true) := by
  obtain ⟨hs, _, f, _, _, _, hd⟩ := validateM_ok (C01.accept_iff.1 h)
  obtain ⟨_, _, _, hknown⟩ := structural_ok hs
  by_cases hw : txType tx = ttWithdrawalSubmit
  · rw [hw] at hd
    exact .inl ⟨hw, validateWithdrawalSubmit_outputs hd⟩
  refine .inr ⟨hw, ?_⟩
  have mat : ∀ {x : Validate.Output} {t : Nat}, x.type = t → Ledger.materialised (toOutType t) = some true →
      Ledger.materialised (toOutType x.type) = some true := fun hx h => hx ▸ h
  refine dispatch_cases (P := fun r => r = .ok () → _) ?_ ?_ ?_ ?_ ?_ ?_ ?_ ?_ ?_ ?_ (fun h => absurd h rej_ne_ok) hd
  · intro ht _ x hx
    have hto := txType_eq_typeOfOutputs (by rw [ht]; decide) (by rw [ht]; decide) hknown
    exact mat ((typeOfOutputs_script _ _ (hto ▸ ht)).2 x hx) (by decide)
  · intro _ hv x hx
    exact mat (validateMint_outputs hv x hx) (by decide)
  · intro _ hv
    obtain ⟨s, ho, hs⟩ := validateDeposit_outputs hv
    rw [ho]
    exact List.forall_mem_singleton.2 (mat hs (by decide))
  · intro ht _
    exact absurd ht hw
  · intro _ hv
    obtain ⟨s, r, ho, hs, hr⟩ := validateWithdrawalClaim_outputs hv
    rw [ho]
    exact List.forall_mem_cons.2 ⟨mat hs (by decide), fun x hx => mat (hr x hx) (by decide)⟩
  · intro ht hv
    exact single_node_output ht (.inl rfl) (validateNodePledge_outputs hv)
  · intro _ hv
    obtain ⟨c, s, ho, hc, hs⟩ := validateNodeCancel_outputs hv
    rw [ho]
    exact List.forall_mem_cons.2 ⟨mat hc (by decide), List.forall_mem_singleton.2 (mat hs (by decide))⟩
  · intro ht hv
    exact single_node_output ht (.inr (.inl rfl)) (validateNodeAccept_outputs hv)
  · intro ht hv
    exact single_node_output ht (.inr (.inr rfl)) (validateNodeRemove_outputs hv)
  · intro _ hv
    obtain ⟨s, ho, hs⟩ := validateCustodianUpdateNodes_outputs hv
    rw [ho]
    exact List.forall_mem_singleton.2 (mat hs (by decide))

open Mixin.Validate in
/-- The translation of a transaction accepted by the model of
    `Validate`, met in a `Ledger`-model state that agrees with the ledger view on what the
    transaction has locked, is `Conserving` in the sense of C17: nothing of another asset is locked
    by it, and value locked + value minted (deposit / mint amount) = value materialised + value
    burnt (withdrawal-submit outputs). -/
theorem validate_accept_conserving {L : Validate.Ledger} {O : Oracle} {tx : Validate.Tx} {fork : Bool}
    {i o : Nat} {st : Ledger.State}
    (h : Validate.validate L O tx fork = .accept i o) (hA : Agrees st L tx) :
    C17.Conserving st (toLedgerTx tx L) := by
  obtain ⟨hs, _, f, hin, _, _, hd⟩ := validateM_ok (C01.accept_iff.1 h)
  obtain ⟨_, hsumI, hsumO, hio, _, _⟩ := C01.validate_conserves h
  have hshape := accepted_output_shape h
  rcases validateInputs_ok hin with ⟨fl, hl⟩ | ⟨a, hl, _, _⟩
  · -- a single mint / deposit input: nothing is locked, its amount is minted, every output is materialised
    obtain ⟨x, hx, hamt, hsp⟩ := C01.early_single hl hd
    have hlock : ∀ b, Ledger.lockedBy st tx.hash b = 0 := lockedBy_none hA (by
      intro inp hi ⟨h1, h2⟩
      rw [hx, List.mem_singleton] at hi
      subst hi
      rw [h1, h2] at hsp
      exact hsp.elim nofun nofun)
    have hmat : ∀ y ∈ tx.outputs, Ledger.materialised (toOutType y.type) = some true := by
      rcases hshape with ⟨hw, _⟩ | ⟨_, hm⟩
      · rcases early_type hl with h' | h' <;> exact absurd (h'.symm.trans hw) (by decide)
      · exact hm
    have hminted : Ledger.minted (toLedgerTx tx L) = inputAmount L x := by
      have hinp : (toLedgerTx tx L).inputs = [toInput x] := congrArg (List.map toInput) hx
      unfold inputAmount
      cases hm : x.mint with
      | some m => exact Ledger.minted_of_mint (hinp.trans (congrArg (· :: []) (toInput_mint hm)))
      | none =>
        rw [hm] at hsp
        obtain ⟨d, hd'⟩ := Option.isSome_iff_exists.1 (hsp.resolve_left nofun)
        rw [hd']
        exact Ledger.minted_of_deposit (hinp.trans (congrArg (· :: []) (toInput_deposit hm hd')))
    have hburnt : Ledger.burnt (toLedgerTx tx L) = 0 := Ledger.burnt_eq_zero (submitSum_none hmat)
    refine ⟨fun b _ => hlock b, ?_⟩
    show Ledger.lockedBy st tx.hash tx.asset + _ = Ledger.matSum (tx.outputs.map toOutput) + _
    rw [hlock, hminted, hburnt, matSum_all hmat, hsumO, ← hio, hamt]
    omega
  · -- ordinary inputs only: their value is locked, nothing is minted
    have hall := (loopSpec_sum _ _ _ _ (loop_full _ _ _ _ hl)).2
    have hlock := lockedBy_agrees hA (C01.validate_inputs_distinct h) hall
    refine ⟨fun b hb => (hlock b).trans (if_neg hb), ?_⟩
    have hminted : Ledger.minted (toLedgerTx tx L) = 0 := by
      obtain ⟨_, hin1, _, _⟩ := structural_ok hs
      match hi : tx.inputs, hin1 with
      | x :: rest, _ =>
        exact Ledger.minted_of_utxo (r := rest.map toInput) ((congrArg (List.map toInput) hi).trans
          (congrArg (· :: _) (toInput_ordinary (hall x (hi ▸ List.mem_cons_self)).1)))
    show Ledger.lockedBy st tx.hash tx.asset + _ = Ledger.matSum (tx.outputs.map toOutput) + _
    rw [hlock, if_pos rfl, hminted, hsumI, hio, ← hsumO]
    rcases hshape with ⟨_, s, r, ho, hst, hr⟩ | ⟨_, hm⟩
    · -- withdrawal submission: the first output is burnt, the others are materialised
      have hmr : ∀ y ∈ r, Ledger.materialised (toOutType y.type) = some true := by
        intro y hy; rw [hr y hy]; decide
      have hso : toOutput s = ⟨.withdrawalSubmit, s.amount, s.keys⟩ := by
        unfold toOutput; rw [hst, toOutType_submit]
      have hty : Ledger.txType (toLedgerTx tx L) = .withdrawalSubmit := by
        unfold Ledger.txType
        show (match Ledger.inputsType (tx.inputs.map toInput) with
          | some t => t | none => Ledger.outputsType (tx.outputs.map toOutput) true) = _
        rw [inputsType_ordinary fun inp hi => (hall inp hi).1, ho, List.map_cons, hso]
        rfl
      rw [Ledger.burnt_of_submit hty]
      show _ = Ledger.matSum (tx.outputs.map toOutput) + Ledger.submitSum (tx.outputs.map toOutput)
      simp only [ho, List.map_cons, hso, Ledger.matSum, Ledger.submitSum, Ledger.materialised, matSum_all hmr,
        submitSum_none hmr, List.sum_cons, Option.some.injEq, Bool.false_eq_true, if_false, if_true]
      omega
    · rw [Ledger.burnt_eq_zero (submitSum_none hm), matSum_all hm]

/-! ### C17 with the `Conserving` hypothesis discharged by C01 -/

/-- the hypothesis of a snapshot write, in terms of validation: each member finalized for the first
    time is the translation of a transaction accepted by the model of `Validate`, met in a state
    that agrees with the ledger view the validator read, with fresh outputs -/
def MembersValidated (cap : Ledger.Id → Nat) : List Ledger.Id → Ledger.State → Ledger.Snap → Prop
  | [], _, _ => True
  | t :: r, st, snap =>
    match Ledger.aget st.txs t with
    | none => True
    | some ltx =>
      (Ledger.aget st.fin ltx.id = none →
        (∃ (L : Validate.Ledger) (O : Validate.Oracle) (vtx : Validate.Tx) (fork : Bool) (i o : Nat),
          ltx = toLedgerTx vtx L ∧ Validate.validate L O vtx fork = .accept i o ∧ Agrees st L vtx) ∧
        C17.FreshOut st ltx) ∧
      (∀ st', Ledger.finalizeTransaction cap st ltx snap.id snap.ts = .ok st' →
        MembersValidated cap r { st' with unique := Ledger.aset st'.unique (t, snap.node) () } snap)

theorem membersValidated_conserve {cap : Ledger.Id → Nat} : ∀ (l : List Ledger.Id) (st : Ledger.State)
    (snap : Ledger.Snap), MembersValidated cap l st snap → C17.MembersConserve cap l st snap
  | [], _, _, _ => trivial
  | t :: r, st, snap, h => by
    unfold MembersValidated at h
    unfold C17.MembersConserve
    cases hg : Ledger.aget st.txs t with
    | none => trivial
    | some ltx =>
      rw [hg] at h
      refine ⟨fun hn => ?_, fun st' hf => membersValidated_conserve r _ _ (h.2 st' hf)⟩
      obtain ⟨⟨L, O, vtx, fork, i, o, rfl, hacc, hA⟩, hfresh⟩ := h.1 hn
      exact ⟨validate_accept_conserving hacc hA, hfresh⟩

/-- the histories of C17 whose snapshot members come out of the validator -/
inductive ReachV (P : Ledger.Params) : Ledger.State → Prop
  | init : ReachV P {}
  | validate {st} (tx : Ledger.Tx) (fork : Bool) : ReachV P st → ReachV P (Ledger.validate P st tx fork).2
  | lock {st} (tx : Ledger.Tx) (fork : Bool) : ReachV P st → Ledger.aget st.fin tx.id = none →
      ReachV P (Ledger.LockInputs st tx fork).2
  | put {st} (tx : Ledger.Tx) : ReachV P st → ReachV P (Ledger.WriteTransaction st tx).2
  | snap {st} (s : Ledger.Snap) (sg : Nat) : ReachV P st → MembersValidated P.cap s.txs st s →
      ReachV P (Ledger.WriteSnapshot P.cap st s sg).2

theorem reachV_reach {P : Ledger.Params} {st : Ledger.State} (h : ReachV P st) : C17.Reach P st := by
  induction h with
  | init => exact .init
  | validate tx fork _ ih => exact .validate tx fork ih
  | lock tx fork _ hn ih => exact .lock tx fork ih hn
  | put tx _ ih => exact .put tx ih
  | snap s sg _ hm ih => exact .snap s sg ih (membersValidated_conserve _ _ _ hm)

/-- C17's supply theorem with per-transaction conservation
    provided by C01: in every state reached by validations, input locks, body writes and snapshot
    writes whose first-time members are translations of transactions accepted by the model of
    `Validate` (in agreeing states, with fresh outputs), the recorded total of every asset equals
    the value in outputs not consumed by a finalized transaction, and is within capacity. -/
theorem supply_invariant_of_validated (P : Ledger.Params) {st : Ledger.State} (h : ReachV P st) :
    (∀ a, Ledger.readTotal st a = Ledger.unspent st a) ∧ (∀ a, Ledger.readTotal st a ≤ P.cap a) :=
  C17.supply_invariant P (reachV_reach h)

/-! ### Non-vacuity: a deposit, a transfer and a withdrawal submission, accepted by the model of
    `Validate`, translated, finalized in the `Ledger` model -/
namespace Example
open Mixin.Validate (Oracle)

def thr (n : Nat) : List Nat := [255, 254, n]

def oracle : Oracle :=
  { checkKey := fun k => 500 ≤ k, verify := fun k s => s == k + 1000, aggVerify := fun _ _ _ => false,
    claimSig := false, updParse := none, updSig := false, scalarOk := false, ghostEq := false }

def base : Validate.Tx :=
  { version := 5, asset := 2, inputs := [], outputs := [], references := [], extraLen := 0, extraId := 3,
    extra64 := 4, extraSpend := 0, sigs := none, agg := none, hash := 0, payloadSize := 300, cap := 1000 }

def sout (amount key : Nat) : Validate.Output :=
  { type := 0, amount := amount, keys := [key], mask := 600 + key, script := thr 1, withdrawal := false }

-- deposit of 300 into asset 2
def vdep : Validate.Tx :=
  { base with
    hash := 10,
    inputs := [{ hash := 0, index := 0, genesis := false, mint := none,
                 deposit := some { chain := 2, assetKeyOk := true, assetKey := 102, txOk := true, uniq := 1, amount := 300 } }],
    outputs := [sout 300 501], sigs := some [[(0, 1550)]] }
def Ldep : Validate.Ledger := { custodian := some { key := 550, addr := 50, nodes := [] } }

-- transfer spending (10, 0)
def vtr : Validate.Tx :=
  { base with
    hash := 12,
    inputs := [{ hash := 10, index := 0, genesis := false, deposit := none, mint := none }],
    outputs := [sout 100 502, sout 200 503], sigs := some [[(0, 1501)]] }
def Ltr : Validate.Ledger :=
  { utxos := [{ hash := 10, index := 0, type := 0, asset := 2, amount := 300, keys := [501], mask := 1101,
                script := thr 1, lock := 0 }] }

-- withdrawal submission of 50 spending (12, 1), 150 change
def vwd : Validate.Tx :=
  { base with
    hash := 13,
    inputs := [{ hash := 12, index := 1, genesis := false, deposit := none, mint := none }],
    outputs := [{ type := 161, amount := 50, keys := [], mask := 0, script := [], withdrawal := true }, sout 150 504],
    sigs := some [[(0, 1503)]] }
def Lwd : Validate.Ledger :=
  { utxos := [{ hash := 12, index := 1, type := 0, asset := 2, amount := 200, keys := [503], mask := 1103,
                script := thr 1, lock := 0 }] }

theorem acc_dep : Validate.validate Ldep oracle vdep false = .accept 300 300 := by decide
theorem acc_tr : Validate.validate Ltr oracle vtr false = .accept 300 300 := by decide
theorem acc_wd : Validate.validate Lwd oracle vwd false = .accept 200 200 := by decide

-- the translations are ordinary `Ledger` transactions
def dep : Ledger.Tx := toLedgerTx vdep Ldep
def tr : Ledger.Tx := toLedgerTx vtr Ltr
def wd : Ledger.Tx := toLedgerTx vwd Lwd
example : dep = ⟨10, 2, [.deposit 1 2 102 300], [⟨.script, 300, [501]⟩], [], true, true⟩ := by decide
example : tr = ⟨12, 2, [.utxo 10 0], [⟨.script, 100, [502]⟩, ⟨.script, 200, [503]⟩], [], true, true⟩ := by decide
example : wd = ⟨13, 2, [.utxo 12 1], [⟨.withdrawalSubmit, 50, []⟩, ⟨.script, 150, [504]⟩], [], true, true⟩ := by decide

-- the history in the `Ledger` model: lock, persist, finalize each of them
def capEx : Ledger.Id → Nat := fun _ => 1000
def s1 : Ledger.State := (Ledger.WriteTransaction (Ledger.LockInputs {} dep false).2 dep).2
def s2 : Ledger.State := (Ledger.WriteSnapshot capEx s1 ⟨100, 1, 1, 11, 8, [10]⟩ 0).2
def s3 : Ledger.State := (Ledger.WriteTransaction (Ledger.LockInputs s2 tr false).2 tr).2
def s4 : Ledger.State := (Ledger.WriteSnapshot capEx s3 ⟨101, 1, 1, 12, 9, [12]⟩ 0).2
def s5 : Ledger.State := (Ledger.WriteTransaction (Ledger.LockInputs s4 wd false).2 wd).2
def s6 : Ledger.State := (Ledger.WriteSnapshot capEx s5 ⟨102, 1, 1, 13, 10, [13]⟩ 0).2

-- each translation is finalized and the supply equality holds after each snapshot
example : Ledger.finalized s2 10 = true ∧ Ledger.readTotal s2 2 = 300 ∧ Ledger.unspent s2 2 = 300 := by decide
example : Ledger.finalized s4 12 = true ∧ Ledger.readTotal s4 2 = 300 ∧ Ledger.unspent s4 2 = 300 := by decide
example : Ledger.finalized s6 13 = true ∧ Ledger.readTotal s6 2 = 250 ∧ Ledger.unspent s6 2 = 250 := by decide

-- the states the transfer and the deposit meet agree with the ledger views the validator read …
theorem agrees_tr : Agrees s3 Ltr vtr := by
  have hu : s3.utxo = [((10, 0), ⟨2, .script, 300, [501], some 12⟩)] := by decide
  refine ⟨by rw [hu]; decide, ?_, ?_⟩
  · intro inp hi _ _ u hu'
    cases List.mem_singleton.1 hi
    cases hu' -- the lookup evaluates
    exact ⟨⟨2, .script, 300, [501], some 12⟩, by rw [hu]; decide, rfl, rfl, rfl⟩
  · intro p hp _
    rw [hu] at hp
    cases List.mem_singleton.1 hp
    exact ⟨_, List.mem_singleton_self _, rfl, rfl, rfl⟩

-- … so the bridge gives C17's hypothesis for them
example : C17.Conserving s3 tr := validate_accept_conserving acc_tr agrees_tr

theorem agrees_dep : Agrees (Ledger.LockInputs {} dep false).2 Ldep vdep := by
  have hu : (Ledger.LockInputs {} dep false).2.utxo = [] := by decide
  refine ⟨by rw [hu]; decide, ?_, ?_⟩
  · intro inp hi _ hd
    cases List.mem_singleton.1 hi
    cases hd
  · intro p hp
    rw [hu] at hp
    cases hp

example : C17.Conserving (Ledger.LockInputs {} dep false).2 dep := validate_accept_conserving acc_dep agrees_dep

end Example
end Mixin.Bridge
