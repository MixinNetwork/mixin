import Mixin.Model.Recovery
import Mixin.Proofs.Basics
import Mixin.Facts.ExpectedC22
import Mixin.Facts.ExpectedC21
/-!
# C21 — the consensus marker survives a stop after finalization

Every reachable durable state satisfies `MInv`: the topology index is sound and at most one
consensus-class snapshot (the *pending* one) lies above the recorded marker. On such a state the
startup walk `setupRepair` succeeds and leaves the marker current.
-/
namespace Mixin.C21
open Mixin.Recovery

theorem lookup_unique {α β : Type} [BEq α] [LawfulBEq α] {l : List (α × β)} {k : α} {v : β} (hm : (k, v) ∈ l)
    (hu : ∀ v', (k, v') ∈ l → v' = v) : l.lookup k = some v := by
  induction l with
  | nil => cases hm
  | cons p t ih =>
    obtain ⟨a, b⟩ := p
    by_cases hk : k = a
    · subst hk
      rw [hu b List.mem_cons_self, List.lookup_cons_self]
    · rw [List.lookup_cons, beq_false_of_ne hk]
      refine ih ((List.mem_cons.mp hm).resolve_left fun h => hk (Prod.mk.inj h).1) fun v' hv' => ?_
      exact hu v' (List.mem_cons_of_mem _ hv')

theorem mem_of_lookup {α β : Type} [BEq α] [LawfulBEq α] {l : List (α × β)} {k : α} {v : β}
    (h : l.lookup k = some v) : (k, v) ∈ l := by
  obtain ⟨l1, l2, rfl, _⟩ := List.lookup_eq_some_iff.mp h
  exact List.mem_append_right _ List.mem_cons_self

theorem lookup_map_range {α β : Type} [BEq α] [LawfulBEq α] (f : Nat → α) (g : Nat → β) (hf : ∀ i j, f j = f i → j = i)
    {n i : Nat} (hi : i < n) : ((List.range n).map (fun j => (f j, g j))).lookup (f i) = some (g i) := by
  refine lookup_unique (List.mem_map.mpr ⟨i, List.mem_range.mpr hi, rfl⟩) fun v hv => ?_
  obtain ⟨j, _, hj⟩ := List.mem_map.mp hv
  injection hj with h1 h2
  rw [← h2, hf i j h1]

theorem lookup_cons_ne {α β : Type} [BEq α] [LawfulBEq α] {l : List (α × β)} {k a : α} (b : β) (h : k ≠ a) :
    ((a, b) :: l).lookup k = l.lookup k := by
  rw [List.lookup_cons, beq_false_of_ne h]

theorem findTx_id {kv : KV} {t : Nat} {tx : Tx} (h : findTx kv t = some tx) : tx.id = t := by
  simpa using List.find?_some h

theorem findSnap_id {kv : KV} {s : Nat} {sn : Snap} (h : findSnap kv s = some sn) : sn.id = s := by
  simpa using List.find?_some h

theorem lockInputs_ok {kv kv' : KV} {t : Tx} (h : lockInputs kv t = .ok kv') :
    ∃ mi d u, kv' = { kv with mints := mi, deposits := d, utxos := u } ∧
      (u = kv.utxos ∨ lockUTXOs kv.utxos t.id t.inputs = some u) := by
  have once : ∀ {x : Option Nat} {new : KV},
      (match x with
        | none => Res.ok new
        | some x => if x == t.id then .ok kv else .reject) = .ok kv' → kv' = new ∨ kv' = kv := by
    intro x new h
    cases x with
    | none => cases h; exact Or.inl rfl
    | some x =>
      dsimp only at h
      by_cases hx : (x == t.id) = true
      · rw [if_pos hx] at h; cases h; exact Or.inr rfl
      · rw [if_neg hx] at h; cases h
  unfold lockInputs at h
  by_cases h2 : (t.kind == 2) = true
  · rw [if_pos h2] at h
    rcases once h with rfl | rfl <;> exact ⟨_, _, _, rfl, Or.inl rfl⟩
  · rw [if_neg h2] at h
    by_cases h0 : (t.kind == 0) = true
    · rw [if_pos h0] at h
      rcases once h with rfl | rfl <;> exact ⟨_, _, _, rfl, Or.inl rfl⟩
    · rw [if_neg h0] at h
      cases hu : lockUTXOs kv.utxos t.id t.inputs with
      | none => rw [hu] at h; cases h
      | some u => rw [hu] at h; cases h; exact ⟨_, _, _, rfl, Or.inr rfl⟩

theorem writeTx_ok {kv kv' : KV} {t : Tx} (h : writeTx kv t = .ok kv') :
    kv' = kv ∨ kv' = { kv with txs := kv.txs ++ [t] } := by
  obtain ⟨_, h⟩ := of_ite_eq h nofun
  by_cases hf : (findTx kv t.id).isSome = true
  · rw [if_pos hf] at h; cases h; exact Or.inl rfl
  · rw [if_neg hf] at h; cases h; exact Or.inr rfl

theorem startNewRound_ok {kv kv' : KV} {c n : Nat} {self ext : RKey} (h : startNewRound kv c n self ext = .ok kv') :
    ∃ hd l, kv.rounds.lookup (.head c) = some hd ∧ hd.number + 1 = n ∧
      kv' = { kv with links := l, rounds := (.head c, { node := c, number := n, self := some self, ext := some ext }) ::
                (self, hd) :: kv.rounds } := by
  unfold startNewRound at h
  cases hh : kv.rounds.lookup (.head c) with
  | none => rw [hh] at h; cases h
  | some hd =>
    cases he : kv.rounds.lookup ext with
    | none => rw [hh, he] at h; cases h
    | some e =>
      rw [hh, he] at h
      obtain ⟨hn, h⟩ := of_ite_eq h nofun
      obtain ⟨_, h⟩ := of_ite_eq h nofun
      obtain ⟨_, h⟩ := of_ite_eq h nofun
      obtain ⟨_, h⟩ := of_ite_eq h nofun
      cases h
      exact ⟨hd, _, rfl, by simpa using hn, rfl⟩

theorem finalizeAll_frame (s : Snap) (l : List Nat) : ∀ {kv kv1 : KV}, finalizeAll kv s l = some kv1 →
    ∃ f u q, kv1 = { kv with fins := f, utxos := u, uniques := q } := by
  induction l with
  | nil => intro kv kv1 h; cases h; exact ⟨_, _, _, rfl⟩
  | cons t rest ih =>
    intro kv kv1 h
    unfold finalizeAll at h
    cases htx : findTx kv t with
    | none => rw [htx] at h; cases h
    | some tx =>
      rw [htx] at h
      obtain ⟨f, u, q, rfl⟩ := ih h
      unfold finalizeOne
      by_cases hf : (kv.fins.lookup tx.id).isSome = true
      · rw [if_pos hf]; exact ⟨_, _, _, rfl⟩
      · rw [if_neg hf]; exact ⟨_, _, _, rfl⟩

theorem insertTopo_append (e : Nat × Nat) (l : List (Nat × Nat)) (h : ∀ x ∈ l, x.1 < e.1) : insertTopo l e = l ++ [e] := by
  induction l with
  | nil => rfl
  | cons x rest ih =>
    rw [insertTopo, if_neg (Nat.lt_asymm (h x List.mem_cons_self)), ih fun y hy => h y (List.mem_cons_of_mem _ hy)]
    rfl

theorem writeSnapshot_ok {kv kv' : KV} {s : Snap} {o : Nat} (h : writeSnapshot kv s o = .ok kv')
    (hnext : ∀ e ∈ kv.topo, e.1 < o) :
    ∃ hd f u q, kv.rounds.lookup (.head s.node) = some hd ∧ hd.number = s.round ∧ findSnap kv s.id = none ∧
      (∀ t ∈ s.txs, ∃ tx, findTx kv t = some tx) ∧
      finalizeAll kv s s.txs = some { kv with fins := f, utxos := u, uniques := q } ∧
      kv' = { kv with fins := f, utxos := u, uniques := q, snaps := kv.snaps ++ [s],
                      topo := kv.topo ++ [(o, s.id)], snaptopo := (s.id, o) :: kv.snaptopo } := by
  unfold writeSnapshot at h
  cases hh : kv.rounds.lookup (.head s.node) with
  | none => rw [hh] at h; cases h
  | some hd =>
    rw [hh] at h
    obtain ⟨hn, h⟩ := of_ite_eq h nofun
    obtain ⟨hfresh, h⟩ := of_ite_eq h nofun
    obtain ⟨htxs, h⟩ := of_ite_eq h nofun
    obtain ⟨_, h⟩ := of_ite_eq h nofun
    cases hfa : finalizeAll kv s s.txs with
    | none => rw [hfa] at h; cases h
    | some kv1 =>
      rw [hfa] at h
      obtain ⟨f, u, q, rfl⟩ := finalizeAll_frame _ _ hfa
      cases h
      refine ⟨hd, f, u, q, rfl, by simpa using hn, by simpa using hfresh, fun t ht => ?_, rfl, ?_⟩
      · cases hx : findTx kv t with
        | some tx => exact ⟨tx, rfl⟩
        | none => exact absurd (List.any_eq_true.mpr ⟨t, ht, by simp [hx]⟩) htxs
      · show KV.mk _ _ _ _ _ _ _ _ _ _ _ _ _ = _
        rw [insertTopo_append _ _ hnext]

/-- the snapshot and transaction of a single-transaction consensus-class snapshot -/
def consTxOf (kv : KV) (sid : Nat) : Option (Snap × Tx) :=
  match findSnap kv sid with
  | some sn =>
    match sn.txs with
    | [t] =>
      match findTx kv t with
      | some tx => if consensusKind tx.kind then some (sn, tx) else none
      | none => none
    | _ => none
  | none => none

def isCons (kv : KV) (e : Nat × Nat) : Bool := (consTxOf kv e.2).isSome

/-- the entry can be read back by `LastSnapshot` / `ReadSnapshotWithTransactionsSinceTopology` -/
def WF (kv : KV) (e : Nat × Nat) : Prop :=
  ∃ sn, findSnap kv e.2 = some sn ∧ ∀ t ∈ sn.txs, ∃ tx, findTx kv t = some tx

theorem consTxOf_id {kv : KV} {s : Nat} {sn : Snap} {tx : Tx} (h : consTxOf kv s = some (sn, tx)) :
    findSnap kv s = some sn ∧ sn.txs = [tx.id] ∧ findTx kv tx.id = some tx ∧ consensusKind tx.kind = true ∧ sn.id = s := by
  unfold consTxOf at h
  split at h
  · rename_i sn' hsn
    split at h
    · rename_i t hts
      split at h
      · rename_i tx' htx
        split at h
        · rename_i hk
          cases h
          rw [← findTx_id htx] at hts htx
          exact ⟨hsn, hts, htx, hk, findSnap_id hsn⟩
        · cases h
      · cases h
    · cases h
  · cases h

theorem isCons_true {kv : KV} {e : Nat × Nat} (h : isCons kv e = true) : ∃ sn tx, consTxOf kv e.2 = some (sn, tx) := by
  obtain ⟨⟨sn, tx⟩, hp⟩ := Option.isSome_iff_exists.mp h
  exact ⟨sn, tx, hp⟩

theorem isCons_of {kv : KV} {e : Nat × Nat} {sn tx} (h : consTxOf kv e.2 = some (sn, tx)) : isCons kv e = true := by
  simp [isCons, h]

theorem soleTx_of {kv : KV} {s : Nat} {sn : Snap} {tx : Tx} (h : consTxOf kv s = some (sn, tx)) :
    soleTx kv s = some tx.id := by
  obtain ⟨hsn, htxs, _⟩ := consTxOf_id h
  simp [soleTx, hsn, htxs]

structure Extends (kv kv' : KV) : Prop where
  snap : ∀ {x sn}, findSnap kv x = some sn → findSnap kv' x = some sn
  tx : ∀ {t tx}, findTx kv t = some tx → findTx kv' t = some tx

theorem findTx_append {kv : KV} {x : Tx} {t : Nat} {tx : Tx} (h : findTx kv t = some tx) :
    findTx { kv with txs := kv.txs ++ [x] } t = some tx := by
  simp only [findTx, List.find?_append] at h ⊢
  rw [h]; rfl

theorem Extends.of_snaps {kv kv' : KV} {ls : List Snap} (hs : kv'.snaps = kv.snaps ++ ls) (ht : kv'.txs = kv.txs) :
    Extends kv kv' := by
  constructor
  · intro x sn h; simp only [findSnap, hs, List.find?_append] at h ⊢; rw [h]; rfl
  · intro t tx h; simp only [findTx, ht]; exact h

theorem Extends.wf {kv kv' : KV} (hx : Extends kv kv') {e : Nat × Nat} (hw : WF kv e) : WF kv' e := by
  obtain ⟨sn, h1, h2⟩ := hw
  exact ⟨sn, hx.snap h1, fun t ht => by obtain ⟨tx, h3⟩ := h2 t ht; exact ⟨tx, hx.tx h3⟩⟩

theorem Extends.consTxOf {kv kv' : KV} (hx : Extends kv kv') {e : Nat × Nat} (hw : WF kv e) :
    consTxOf kv' e.2 = consTxOf kv e.2 := by
  obtain ⟨sn, h1, h2⟩ := hw
  unfold C21.consTxOf
  rw [hx.snap h1, h1]
  match hts : sn.txs with
  | [] | _ :: _ :: _ => simp only [hts]
  | [t] =>
    obtain ⟨tx, h3⟩ := h2 t (by simp [hts])
    simp only [hts, hx.tx h3, h3]

theorem Extends.isCons {kv kv' : KV} (hx : Extends kv kv') {e : Nat × Nat} (hw : WF kv e) :
    isCons kv' e = isCons kv e := by
  simp only [C21.isCons, hx.consTxOf hw]

theorem Extends.soleTx {kv kv' : KV} (hx : Extends kv kv') {s t : Nat} (h : soleTx kv s = some t) :
    soleTx kv' s = some t := by
  unfold Recovery.soleTx at h ⊢
  split at h
  · rename_i sn hsn; rw [hx.snap hsn]; exact h
  · cases h

/-- the marker `m` of `kv`: newest CONSENSUSSNAPSHOT entry, its snapshot record and sole transaction -/
structure Marker (kv : KV) (m : Cons) (mo mt : Nat) : Prop where
  last : lastCons kv = some m
  order : kv.snaptopo.lookup m.snap = some mo
  sole : soleTx kv m.snap = some mt

theorem Marker.unique {kv : KV} {m m' : Cons} {mo mo' mt mt' : Nat} (h : Marker kv m mo mt) (h' : Marker kv m' mo' mt') :
    m = m' ∧ mo = mo' ∧ mt = mt' := by
  obtain rfl : m = m' := Option.some.inj (h.last.symm.trans h'.last)
  exact ⟨rfl, Option.some.inj (h.order.symm.trans h'.order), Option.some.inj (h.sole.symm.trans h'.sole)⟩

/-- the state after recording `sn`/`tx` as the newest consensus snapshot -/
def advance (kv : KV) (sn : Snap) (tx : Tx) : KV :=
  { kv with cons := setNext kv.cons tx.id ++ [{ ts := sn.ts, snap := sn.id, next := 0 }] }

theorem lastCons_advance (kv : KV) (sn : Snap) (tx : Tx) :
    lastCons (advance kv sn tx) = some { ts := sn.ts, snap := sn.id, next := 0 } := by
  simp [lastCons, advance]

/-- the model's `markSnap` and `reloadAt` have the same body; the topology order is not read -/
theorem markSnap_eq_reloadAt (kv : KV) (o sid : Nat) : markSnap kv sid = reloadAt kv (o, sid) := rfl

theorem reloadAt_quiet {kv : KV} {e : Nat × Nat} (hw : WF kv e) (hc : isCons kv e = false) :
    reloadAt kv e = .ok kv := by
  obtain ⟨sn, hsn, htx⟩ := hw
  unfold reloadAt
  simp only [hsn]
  match hts : sn.txs with
  | [] | _ :: _ :: _ => rfl
  | [t] =>
    obtain ⟨tx, htx'⟩ := htx t (by simp [hts])
    have : consensusKind tx.kind = false := by simpa [isCons, consTxOf, hsn, hts, htx'] using hc
    simp [htx', reload, hts, this]

/-- `reloadAt` on a single-transaction consensus snapshot: `writeConsensusSnapshot` read against
    the marker -/
theorem reloadAt_cons {kv : KV} {e : Nat × Nat} {sn : Snap} {tx : Tx} {m : Cons} {mo mt : Nat}
    (hm : Marker kv m mo mt) (hc : consTxOf kv e.2 = some (sn, tx)) :
    reloadAt kv e = if mt == tx.id then .ok kv else if mt != tx.ref0 then .panic
      else if m.ts ≥ sn.ts then .panic else .ok (advance kv sn tx) := by
  obtain ⟨hsn, htxs, htx, hk, _⟩ := consTxOf_id hc
  simp [reloadAt, reload, writeConsensus, hsn, htxs, htx, hk, hm.last, hm.sole, advance]

theorem reloadAt_pending {kv : KV} {e : Nat × Nat} {sn : Snap} {tx : Tx} {m : Cons} {mo mt : Nat}
    (hm : Marker kv m mo mt) (hc : consTxOf kv e.2 = some (sn, tx))
    (href : tx.ref0 = mt) (hne : tx.id ≠ mt) (hts : m.ts < sn.ts) :
    reloadAt kv e = .ok (advance kv sn tx) := by
  rw [reloadAt_cons hm hc]
  simp [href, Ne.symm hne, Nat.not_le.mpr hts]

/-- What every reachable durable state satisfies. `m` is the recorded marker; at most one
    consensus-class snapshot lies above it in the topology (the *pending* one, finalized but
    not yet recorded), it extends the marker's chain, and nothing below the marker is newer. -/
structure MInv (kv : KV) : Prop where
  sorted : kv.topo.Pairwise (fun a b => a.1 < b.1)
  wf : ∀ e ∈ kv.topo, WF kv e
  idx : ∀ e ∈ kv.topo, kv.snaptopo.lookup e.2 = some e.1
  stored : ∀ sn ∈ kv.snaps, ∃ o, (o, sn.id) ∈ kv.topo
  marker : ∃ m mo mt, Marker kv m mo mt ∧ (mo, m.snap) ∈ kv.topo ∧
    (∀ e1 ∈ kv.topo, ∀ e2 ∈ kv.topo, mo < e1.1 → mo < e2.1 → isCons kv e1 = true → isCons kv e2 = true → e1 = e2) ∧
    (∀ e ∈ kv.topo, mo < e.1 → ∀ sn tx, consTxOf kv e.2 = some (sn, tx) →
        tx.ref0 = mt ∧ tx.id ≠ mt ∧ m.ts < sn.ts) ∧
    (∀ e ∈ kv.topo, e.1 ≤ mo → ∀ sn tx, consTxOf kv e.2 = some (sn, tx) →
        sn.ts ≤ m.ts ∧ (sn.ts = m.ts → sn.id = m.snap) ∧ (e.1 = mo → tx.id = mt))

theorem MInv.last {kv : KV} (h : MInv kv) : ∃ last, kv.topo.getLast? = some last := by
  obtain ⟨_, _, _, _, hmem, _⟩ := h.marker
  exact Option.isSome_iff_exists.mp (List.getLast?_isSome.mpr (List.ne_nil_of_mem hmem))

theorem Marker.markerOrder {kv : KV} {m : Cons} {mo mt : Nat} (hm : Marker kv m mo mt) : markerOrder kv = some mo := by
  simp only [Recovery.markerOrder, hm.last, hm.order]

def Current (kv : KV) (mo : Nat) : Prop := ∀ e ∈ kv.topo, mo < e.1 → isCons kv e = false

/-- recording the pending consensus snapshot: of the new CONSENSUSSNAPSHOT list only its last entry matters -/
theorem record_inv {kv : KV} {mo : Nat} (h : MInv kv) (hmo : markerOrder kv = some mo) {p : Nat × Nat}
    (hp : p ∈ kv.topo) {sn : Snap} {tx : Tx} (hpc : consTxOf kv p.2 = some (sn, tx)) (hpo : mo < p.1)
    {c : List Cons} (hlast : c.getLast? = some { ts := sn.ts, snap := sn.id, next := 0 }) :
    MInv { kv with cons := c } ∧ markerOrder { kv with cons := c } = some p.1 ∧
      Current { kv with cons := c } p.1 := by
  obtain ⟨m, mo', mt, hm, _, hu, hb, hc⟩ := h.marker
  obtain rfl : mo = mo' := Option.some.inj (hmo.symm.trans hm.markerOrder)
  obtain ⟨_, _, _, _, hid⟩ := consTxOf_id hpc
  have habove : Current kv p.1 := by
    intro e he hlt
    refine Bool.eq_false_iff.mpr fun hce => ?_
    have := hu e he p hp (Nat.lt_trans hpo hlt) hpo hce (isCons_of hpc)
    subst this; exact Nat.lt_irrefl _ hlt
  have hm' : Marker { kv with cons := c } { ts := sn.ts, snap := sn.id, next := 0 } p.1 tx.id :=
    ⟨hlast, by rw [hid]; exact h.idx p hp, by rw [hid]; exact soleTx_of hpc⟩
  refine ⟨⟨h.sorted, h.wf, h.idx, h.stored, _, _, _, hm', by rw [hid]; exact hp, ?_, ?_, ?_⟩, hm'.markerOrder, habove⟩
  · intro e1 he1 _ _ h1 _ (hc1 : isCons kv e1 = true) _
    rw [habove e1 he1 h1] at hc1; cases hc1
  · intro e he hlt sn' tx' (hec : consTxOf kv e.2 = _)
    have := habove e he hlt
    rw [isCons_of hec] at this; cases this
  · intro e he hle sn' tx' (hec : consTxOf kv e.2 = _)
    show sn'.ts ≤ sn.ts ∧ (sn'.ts = sn.ts → sn'.id = sn.id) ∧ (e.1 = p.1 → tx'.id = tx.id)
    by_cases hlo : e.1 ≤ mo
    · have hts : sn'.ts < sn.ts := Nat.lt_of_le_of_lt (hc e he hlo sn' tx' hec).1 (hb p hp hpo sn tx hpc).2.2
      exact ⟨Nat.le_of_lt hts, fun h => absurd h (Nat.ne_of_lt hts),
        fun h => absurd h (Nat.ne_of_lt (Nat.lt_of_le_of_lt hlo hpo))⟩
    · obtain rfl : e = p := hu e he p hp (Nat.lt_of_not_le hlo) hpo (isCons_of hec) (isCons_of hpc)
      rw [hpc] at hec; cases hec
      exact ⟨Nat.le_refl _, fun _ => rfl, fun _ => rfl⟩

theorem reloadMany_snoc (e : Nat × Nat) (es : List (Nat × Nat)) : ∀ kv,
    reloadMany kv (es ++ [e]) = match reloadMany kv es with | .ok kv1 => reloadAt kv1 e | r => r := by
  induction es with
  | nil => intro kv; cases h : reloadAt kv e <;> simp only [List.nil_append, reloadMany, h]
  | cons a es ih =>
    intro kv
    cases h : reloadAt kv a <;> simp only [List.cons_append, reloadMany, h]
    exact ih _

/-- The walk over an ascending run of topology entries at or above the marker: an entry is either
    the pending snapshot, which becomes the marker, or leaves the state as it is. If the run holds
    every consensus snapshot above the marker, the marker ends up current. -/
theorem reloadMany_walk (es : List (Nat × Nat)) : ∀ {kv : KV} {mo : Nat}, MInv kv → markerOrder kv = some mo →
    es.Pairwise (fun a b => a.1 < b.1) → (∀ e ∈ es, e ∈ kv.topo ∧ mo ≤ e.1) →
    (∀ e ∈ kv.topo, mo < e.1 → isCons kv e = true → e ∈ es) →
    ∃ kv' mo', reloadMany kv es = .ok kv' ∧ (∃ c, kv' = { kv with cons := c }) ∧ MInv kv' ∧
      markerOrder kv' = some mo' ∧ Current kv' mo' := by
  induction es with
  | nil =>
    intro kv mo h hmo _ _ hall
    exact ⟨kv, mo, rfl, ⟨_, rfl⟩, h, hmo, fun e he hlt =>
      Bool.eq_false_iff.mpr fun hc => List.not_mem_nil (hall e he hlt hc)⟩
  | cons e rest ih =>
    intro kv mo h hmo hp hes hall
    obtain ⟨hlt, hp'⟩ := List.pairwise_cons.mp hp
    obtain ⟨he, hge⟩ := hes e List.mem_cons_self
    obtain ⟨m, mo', mt, hm, _, _, hb, hc⟩ := h.marker
    obtain rfl : mo = mo' := Option.some.inj (hmo.symm.trans hm.markerOrder)
    have hrest : ∀ {mo'}, mo' ≤ e.1 → ∀ x ∈ rest, x ∈ kv.topo ∧ mo' ≤ x.1 := fun hle x hx =>
      ⟨(hes x (List.mem_cons_of_mem _ hx)).1, Nat.le_of_lt (Nat.lt_of_le_of_lt hle (hlt x hx))⟩
    by_cases hpend : mo < e.1 ∧ isCons kv e = true
    · obtain ⟨hgt, hce⟩ := hpend
      obtain ⟨sn, tx, hct⟩ := isCons_true hce
      obtain ⟨h1, h2, h3⟩ := hb e he hgt sn tx hct
      obtain ⟨h', hmo', hcur⟩ := record_inv h hmo he hct hgt (lastCons_advance kv sn tx)
      simp only [reloadMany, reloadAt_pending hm hct h1 h2 h3]
      exact ih h' hmo' hp' (hrest (Nat.le_refl _)) fun x hx hxl hxc =>
        absurd ((hcur x hx hxl).symm.trans hxc) Bool.false_ne_true
    · have hq : reloadAt kv e = .ok kv := by
        cases hce : isCons kv e with
        | false => exact reloadAt_quiet (h.wf e he) hce
        | true =>
          obtain ⟨sn, tx, hct⟩ := isCons_true hce
          have hle : e.1 ≤ mo := Nat.le_of_not_lt fun hgt => hpend ⟨hgt, hce⟩
          rw [reloadAt_cons hm hct]
          simp [(hc e he hle sn tx hct).2.2 (Nat.le_antisymm hle hge)]
      simp only [reloadMany, hq]
      exact ih h hmo hp' (hrest hge) fun x hx hxl hxc =>
        (List.mem_cons.mp (hall x hx hxl hxc)).resolve_left fun heq => hpend (heq ▸ ⟨hxl, hxc⟩)

theorem setupRepair_spec {kv : KV} (h : MInv kv) :
    ∃ kv' mo', setupRepair kv = .ok kv' ∧ (∃ c, kv' = { kv with cons := c }) ∧ MInv kv' ∧
      markerOrder kv' = some mo' ∧ Current kv' mo' := by
  obtain ⟨m, mo, mt, hm, hmem, _⟩ := h.marker
  obtain ⟨last, hlast⟩ := h.last
  have hmax := pairwise_getLast h.sorted hlast
  have hmo := hm.markerOrder
  have hwalk : setupRepair kv =
      reloadMany kv (kv.topo.filter (fun e => mo < e.1 && e.1 < last.1) ++ [last]) := by
    simp only [setupRepair, hlast, hmo]
    exact (reloadMany_snoc _ _ _).symm
  have hsub : ∀ e, e ∈ kv.topo.filter (fun e => mo < e.1 && e.1 < last.1) ↔ e ∈ kv.topo ∧ mo < e.1 ∧ e.1 < last.1 := by
    intro e; simp [List.mem_filter]
  rw [hwalk]
  refine reloadMany_walk _ h hmo ?_ ?_ ?_
  · refine List.pairwise_append.mpr ⟨h.sorted.filter _, List.pairwise_singleton _ _, fun a ha b hb => ?_⟩
    rw [List.mem_singleton.mp hb]; exact ((hsub a).mp ha).2.2
  · intro e he
    rcases List.mem_append.mp he with he | he
    · exact ⟨((hsub e).mp he).1, Nat.le_of_lt ((hsub e).mp he).2.1⟩
    · rw [List.mem_singleton.mp he]
      refine ⟨List.mem_of_getLast? hlast, ?_⟩
      rcases hmax _ hmem with heq | hlt
      · rw [← heq]; exact Nat.le_refl _
      · exact Nat.le_of_lt hlt
  · intro e he hgt _
    rcases hmax e he with heq | hlt
    · exact List.mem_append.mpr (Or.inr (List.mem_singleton.mpr heq))
    · exact List.mem_append.mpr (Or.inl ((hsub e).mpr ⟨he, hgt, hlt⟩))

theorem setupRepair_ok {kv kv' : KV} (h : MInv kv) (hstep : setupRepair kv = .ok kv') :
    (∃ c, kv' = { kv with cons := c }) ∧ MInv kv' := by
  obtain ⟨_, _, e, hc, h', _⟩ := setupRepair_spec h
  rw [e] at hstep; cases hstep; exact ⟨hc, h'⟩

/-- the kernel's marker write, whatever snapshot it is called with -/
theorem markSnap_ok {kv kv' : KV} {sid : Nat} (h : MInv kv) (hstep : markSnap kv sid = .ok kv') :
    (∃ c, kv' = { kv with cons := c }) ∧ MInv kv' := by
  obtain ⟨m, mo, mt, hm, _, _, _, hc⟩ := h.marker
  cases hsn : findSnap kv sid with
  | none => simp [markSnap, hsn] at hstep
  | some sn =>
    obtain ⟨o, ho⟩ := h.stored sn (List.mem_of_find?_eq_some hsn)
    rw [findSnap_id hsn] at ho
    rw [markSnap_eq_reloadAt kv o] at hstep
    cases hcs : consTxOf kv sid with
    | none =>
      rw [reloadAt_quiet (h.wf _ ho) (by simp [isCons, hcs])] at hstep
      cases hstep; exact ⟨⟨_, rfl⟩, h⟩
    | some p =>
      obtain ⟨sn', tx⟩ := p
      rw [reloadAt_cons (e := (o, sid)) hm hcs] at hstep
      by_cases hsame : (mt == tx.id) = true
      · rw [if_pos hsame] at hstep; cases hstep; exact ⟨⟨_, rfl⟩, h⟩
      · rw [if_neg hsame] at hstep
        obtain ⟨_, hstep⟩ := of_ite_eq hstep nofun
        obtain ⟨hts, hstep⟩ := of_ite_eq hstep nofun
        cases hstep
        have hgt : mo < o := Nat.lt_of_not_le fun hle => hts (hc (o, sid) ho hle sn' tx hcs).1
        exact ⟨⟨_, rfl⟩, (record_inv h hm.markerOrder ho hcs hgt (lastCons_advance kv sn' tx)).1⟩

theorem MInv_agree {kv kv' : KV} (h2 : kv'.snaps = kv.snaps) (h3 : kv'.topo = kv.topo)
    (h4 : kv'.snaptopo = kv.snaptopo) (h5 : kv'.cons = kv.cons)
    (ht : ∀ t tx, findTx kv t = some tx → findTx kv' t = some tx) (h : MInv kv) : MInv kv' := by
  have hx : Extends kv kv' := ⟨fun hs => by simp only [findSnap, h2]; exact hs, fun hs => ht _ _ hs⟩
  obtain ⟨m, mo, mt, hm, hmem, hu, hb, hc⟩ := h.marker
  refine ⟨by rw [h3]; exact h.sorted, ?_, ?_, ?_, ⟨m, mo, mt, ?_, by rw [h3]; exact hmem, ?_, ?_, ?_⟩⟩
  · intro e he; rw [h3] at he; exact hx.wf (h.wf e he)
  · intro e he; rw [h3] at he; rw [h4]; exact h.idx e he
  · intro sn hsn; rw [h2] at hsn; rw [h3]; exact h.stored sn hsn
  · exact ⟨by simp only [lastCons, h5]; exact hm.last, by rw [h4]; exact hm.order, hx.soleTx hm.sole⟩
  · intro e1 he1 e2 he2; rw [h3] at he1 he2
    rw [hx.isCons (h.wf e1 he1), hx.isCons (h.wf e2 he2)]; exact hu e1 he1 e2 he2
  · intro e he; rw [h3] at he; rw [hx.consTxOf (h.wf e he)]; exact hb e he
  · intro e he; rw [h3] at he; rw [hx.consTxOf (h.wf e he)]; exact hc e he

/-- The call-order discipline for a finalization write, as far as the marker is concerned: the
    topology order is the next one (`Node.TopoWrite`), and a consensus-class transaction is only
    finalized when the recorded marker is current, as the transaction that extends the marker's
    chain (`validateConsensusTransactionReferences`), in one snapshot. -/
structure SnapProto (kv : KV) (s : Snap) (o : Nat) : Prop where
  next : ∀ e ∈ kv.topo, e.1 < o
  chain : ∀ t tx, s.txs = [t] → findTx kv t = some tx → consensusKind tx.kind = true →
    ∃ m mo mt, Marker kv m mo mt ∧ (∀ e ∈ kv.topo, mo < e.1 → isCons kv e = false) ∧
      tx.ref0 = mt ∧ tx.id ≠ mt ∧ m.ts < s.ts

theorem SnapProto.of_ordinary {kv : KV} {s : Snap} {o t : Nat} {tx : Tx} (hn : ∀ e ∈ kv.topo, e.1 < o)
    (hs : s.txs = [t]) (hf : findTx kv t = some tx) (hk : consensusKind tx.kind = false) : SnapProto kv s o := by
  refine ⟨hn, fun t' tx' h1 h2 h3 => ?_⟩
  obtain rfl : t = t' := List.singleton_inj.mp (hs.symm.trans h1)
  obtain rfl : tx = tx' := Option.some.inj (hf.symm.trans h2)
  rw [hk] at h3; cases h3

theorem writeSnapshot_reads {kv kv' : KV} {s : Snap} {o : Nat} (hstep : writeSnapshot kv s o = .ok kv')
    (hnext : ∀ e ∈ kv.topo, e.1 < o) :
    Extends kv kv' ∧ findSnap kv' s.id = some s ∧
      ∀ {m mo mt}, Marker kv m mo mt → Marker kv' m mo mt := by
  obtain ⟨_, f, u, q, _, _, hnone, _, _, hkv'⟩ := writeSnapshot_ok hstep hnext
  have hx : Extends kv kv' := Extends.of_snaps (ls := [s]) (by rw [hkv']) (by rw [hkv'])
  subst hkv'
  refine ⟨hx, by simp only [findSnap, List.find?_append] at hnone ⊢; simp [hnone],
    fun {m mo mt} hm => ⟨hm.last, ?_, hx.soleTx hm.sole⟩⟩
  have hne : m.snap ≠ s.id := by
    intro heq
    have := hm.sole
    simp [soleTx, heq, hnone] at this
  show ((s.id, o) :: kv.snaptopo).lookup m.snap = some mo
  rw [lookup_cons_ne _ hne]; exact hm.order

theorem MInv_snap {kv kv' : KV} {s : Snap} {o : Nat} (hstep : writeSnapshot kv s o = .ok kv')
    (hp : SnapProto kv s o) (h : MInv kv) : MInv kv' := by
  obtain ⟨m, mo, mt, hm, hmem, hu, hb, hc⟩ := h.marker
  obtain ⟨hx, hfs_new, hmk⟩ := writeSnapshot_reads hstep hp.next
  obtain ⟨_, f, u, q, _, _, hnone, hall, _, hkv'⟩ := writeSnapshot_ok hstep hp.next
  -- a consensus-class new entry was finalized while the marker was current (`SnapProto.chain`)
  have hnew : ∀ sn tx, consTxOf kv' s.id = some (sn, tx) →
      sn = s ∧ Current kv mo ∧ tx.ref0 = mt ∧ tx.id ≠ mt ∧ m.ts < s.ts := by
    intro sn tx hct
    obtain ⟨a1, a2, a3, a4, _⟩ := consTxOf_id hct
    obtain rfl : s = sn := Option.some.inj (hfs_new.symm.trans a1)
    rw [hkv'] at a3
    obtain ⟨m', mo', mt', hm', q⟩ := hp.chain tx.id tx a2 a3 a4
    obtain ⟨rfl, rfl, rfl⟩ := hm.unique hm'
    exact ⟨rfl, q⟩
  have hq : ∀ e ∈ kv.topo, mo < e.1 → isCons kv' e = true → isCons kv' (o, s.id) = true → False := by
    intro e he g c1 c2
    obtain ⟨sn, tx, hct⟩ := isCons_true c2
    rw [hx.isCons (h.wf e he), (hnew sn tx hct).2.1 e he g] at c1; cases c1
  subst hkv'
  have hmem' : ∀ {e}, e ∈ kv.topo ++ [(o, s.id)] → e ∈ kv.topo ∨ e = (o, s.id) := fun he =>
    (List.mem_append.mp he).imp_right List.mem_singleton.mp
  refine ⟨?_, ?_, ?_, ?_, ⟨m, mo, mt, hmk hm, List.mem_append.mpr (Or.inl hmem), ?_, ?_, ?_⟩⟩
  · refine List.pairwise_append.mpr ⟨h.sorted, List.pairwise_singleton _ _, fun a ha b hb' => ?_⟩
    rw [List.mem_singleton.mp hb']; exact hp.next a ha
  · intro e he
    rcases hmem' he with he | rfl
    · exact hx.wf (h.wf e he)
    · exact ⟨s, hfs_new, hall⟩
  · intro e he
    show ((s.id, o) :: kv.snaptopo).lookup e.2 = some e.1
    rcases hmem' he with he | rfl
    · obtain ⟨sn, h1, _⟩ := h.wf e he
      rw [lookup_cons_ne _ fun heq => nomatch (heq ▸ h1).symm.trans hnone]; exact h.idx e he
    · exact List.lookup_cons_self
  · intro sn hsn
    rcases List.mem_append.mp hsn with hsn | hsn
    · obtain ⟨o', ho'⟩ := h.stored sn hsn; exact ⟨o', List.mem_append.mpr (Or.inl ho')⟩
    · rw [List.mem_singleton.mp hsn]; exact ⟨o, by simp⟩
  · intro e1 he1 e2 he2 g1 g2 c1 c2
    rcases hmem' he1 with he1 | rfl <;> rcases hmem' he2 with he2 | rfl
    · rw [hx.isCons (h.wf e1 he1)] at c1; rw [hx.isCons (h.wf e2 he2)] at c2
      exact hu e1 he1 e2 he2 g1 g2 c1 c2
    · exact (hq e1 he1 g1 c1 c2).elim
    · exact (hq e2 he2 g2 c2 c1).elim
    · rfl
  · intro e he g sn tx hct
    rcases hmem' he with he | rfl
    · rw [hx.consTxOf (h.wf e he)] at hct; exact hb e he g sn tx hct
    · obtain ⟨rfl, _, q⟩ := hnew sn tx hct
      exact q
  · intro e he g sn tx hct
    rcases hmem' he with he | rfl
    · rw [hx.consTxOf (h.wf e he)] at hct; exact hc e he g sn tx hct
    · exact absurd (hp.next _ hmem) (Nat.not_lt.mpr g)

theorem genesis_topo_mem {n i : Nat} (hi : i ≤ n) : (i, i + 1) ∈ (genesis n).topo :=
  List.mem_map.mpr ⟨i, List.mem_range.mpr (Nat.lt_succ_of_le hi), rfl⟩

theorem genesis_snaps {n : Nat} {sn : Snap} (h : sn ∈ (genesis n).snaps) :
    ∃ i, i ≤ n ∧ sn.id = i + 1 ∧ sn.txs = [i + 1] := by
  simp only [genesis, List.mem_append, List.mem_map, List.mem_range, List.mem_singleton] at h
  rcases h with ⟨c, hc, rfl⟩ | rfl
  · exact ⟨c, Nat.le_of_lt hc, rfl, rfl⟩
  · exact ⟨n, Nat.le_refl n, rfl, rfl⟩

theorem genesis_findTx (n i : Nat) (hi : i ≤ n) :
    findTx (genesis n) (i + 1) = some { id := i + 1, kind := 8, ref0 := 0, outs := 1, key := 0, inputs := [] } := by
  have : (List.range (n + 1)).find? ((fun x : Tx => x.id == i + 1) ∘
      fun j => { id := j + 1, kind := 8, ref0 := 0, outs := 1, key := 0, inputs := [] }) = some i :=
    List.find?_range_eq_some.mpr ⟨by simp, List.mem_range.mpr (Nat.lt_succ_of_le hi), fun j hj => by simp; omega⟩
  simp only [findTx, genesis, List.find?_map, this]; rfl

theorem genesis_noCons (n s : Nat) : consTxOf (genesis n) s = none := by
  cases hc : consTxOf (genesis n) s with
  | none => rfl
  | some p =>
    obtain ⟨_, _, h3, h4, _⟩ := consTxOf_id (sn := p.1) (tx := p.2) hc
    obtain ⟨j, _, hj⟩ := List.mem_map.mp (List.mem_of_find?_eq_some h3)
    rw [← hj] at h4; cases h4

theorem genesis_findSnap (n i : Nat) (hi : i ≤ n) :
    ∃ sn, findSnap (genesis n) (i + 1) = some sn ∧ sn.txs = [i + 1] := by
  have hex : ∃ sn ∈ (genesis n).snaps, (sn.id == i + 1) = true := by
    rcases Nat.lt_or_eq_of_le hi with h | rfl
    · exact ⟨{ id := i + 1, node := i, round := 0, ts := 0, txs := [i + 1] },
        List.mem_append.mpr (Or.inl (List.mem_map.mpr ⟨i, List.mem_range.mpr h, rfl⟩)), beq_self_eq_true _⟩
    · exact ⟨_, List.mem_append.mpr (Or.inr (List.mem_singleton_self _)), beq_self_eq_true _⟩
  obtain ⟨sn, hf⟩ := Option.isSome_iff_exists.mp (List.find?_isSome.mpr hex)
  obtain ⟨j, _, h1, h2⟩ := genesis_snaps (List.mem_of_find?_eq_some hf)
  rw [findSnap_id hf] at h1
  exact ⟨sn, hf, by rw [h2, h1]⟩

theorem genesis_inv (n : Nat) : MInv (genesis n) := by
  have hmemt : ∀ e ∈ (genesis n).topo, e.2 = e.1 + 1 ∧ e.1 ≤ n := by
    intro e he
    obtain ⟨i, hi, rfl⟩ := List.mem_map.mp he
    exact ⟨rfl, Nat.le_of_lt_succ (List.mem_range.mp hi)⟩
  have hidx : ∀ i, i ≤ n → (genesis n).snaptopo.lookup (i + 1) = some i := fun i hi =>
    lookup_map_range (· + 1) id (fun _ _ h => Nat.succ.inj h) (Nat.lt_succ_of_le hi)
  refine ⟨?_, ?_, ?_, ?_, ⟨{ ts := 1, snap := n + 1, next := 0 }, n, n + 1, ⟨rfl, hidx n (Nat.le_refl n), ?_⟩,
    genesis_topo_mem (Nat.le_refl n), ?_, ?_, ?_⟩⟩
  · exact List.pairwise_map.mpr (List.Pairwise.imp (fun h => h) List.pairwise_lt_range)
  · intro e he
    obtain ⟨h1, h2⟩ := hmemt e he
    obtain ⟨sn, hsn, htx⟩ := genesis_findSnap n e.1 h2
    refine ⟨sn, by rw [h1]; exact hsn, fun t ht => ?_⟩
    rw [htx, List.mem_singleton] at ht; subst ht
    exact ⟨_, genesis_findTx n e.1 h2⟩
  · intro e he
    obtain ⟨h1, h2⟩ := hmemt e he
    rw [h1]; exact hidx e.1 h2
  · intro sn hsn
    obtain ⟨i, hi, hid, _⟩ := genesis_snaps hsn
    exact ⟨i, by rw [hid]; exact genesis_topo_mem hi⟩
  · obtain ⟨sn, hsn, htx⟩ := genesis_findSnap n n (Nat.le_refl n)
    simp [soleTx, hsn, htx]
  · intro e1 _ e2 _ _ _ c1 _
    simp [isCons, genesis_noCons] at c1
  · intro e _ _ sn tx hx; rw [genesis_noCons] at hx; cases hx
  · intro e _ _ sn tx hx; rw [genesis_noCons] at hx; cases hx

/-- one durable write of the node: any storage call that committed (with the finalization
    discipline `SnapProto`), the kernel's marker write for any snapshot, or a restart. -/
inductive Step : KV → KV → Prop where
  | lock {kv kv' : KV} {t : Tx} : lockInputs kv t = .ok kv' → Step kv kv'
  | wtx {kv kv' : KV} {t : Tx} : writeTx kv t = .ok kv' → Step kv kv'
  | round {kv kv' : KV} {c n : Nat} {self ext : RKey} : startNewRound kv c n self ext = .ok kv' → Step kv kv'
  | snap {kv kv' : KV} {s : Snap} {o : Nat} : writeSnapshot kv s o = .ok kv' → SnapProto kv s o → Step kv kv'
  | mark {kv kv' : KV} {sid : Nat} : markSnap kv sid = .ok kv' → Step kv kv'
  | restart {kv kv' : KV} : setupRepair kv = .ok kv' → Step kv kv'

/-- every state the process can be stopped in: genesis followed by any number of writes (each
    prefix of a write sequence is itself such a sequence, so this covers every cut point) -/
inductive Reach : KV → Prop where
  | genesis (n : Nat) : Reach (genesis n)
  | step {kv kv' : KV} : Reach kv → Step kv kv' → Reach kv'

theorem step_inv {kv kv' : KV} (hs : Step kv kv') (h : MInv kv) : MInv kv' := by
  cases hs with
  | lock h1 =>
    obtain ⟨_, _, _, rfl, _⟩ := lockInputs_ok h1
    exact MInv_agree (kv := kv) rfl rfl rfl rfl (fun _ _ hx => hx) h
  | wtx h1 =>
    rcases writeTx_ok h1 with rfl | rfl
    · exact h
    · exact MInv_agree (kv := kv) rfl rfl rfl rfl (fun _ _ hx => findTx_append hx) h
  | round h1 =>
    obtain ⟨_, _, _, _, rfl⟩ := startNewRound_ok h1
    exact MInv_agree (kv := kv) rfl rfl rfl rfl (fun _ _ hx => hx) h
  | snap h1 hp => exact MInv_snap h1 hp h
  | mark h1 => exact (markSnap_ok h h1).2
  | restart h1 => exact (setupRepair_ok h h1).2

theorem reach_inv {kv : KV} (hr : Reach kv) : MInv kv := by
  induction hr with
  | genesis n => exact genesis_inv n
  | step _ hs ih => exact step_inv hs ih

/-- C21, full strength. Stop the process after any sequence of durable writes (any cut point
    of any write sequence that follows the finalization discipline, restarts included). Then the
    modelled `SetupNode` marker repair succeeds, and for every consensus-class snapshot `c`
    committed before the stop the recorded last consensus snapshot is `c` or a later one. -/
theorem marker_after_restart {kv : KV} (hr : Reach kv) :
    ∃ kv' m', setupRepair kv = .ok kv' ∧ lastCons kv' = some m' ∧
      ∀ e ∈ kv.topo, ∀ c tx, consTxOf kv e.2 = some (c, tx) →
        c.ts ≤ m'.ts ∧ (c.ts = m'.ts → m'.snap = c.id) := by
  obtain ⟨kv', mo', h1, ⟨_, rfl⟩, h', hmo', hcur⟩ := setupRepair_spec (reach_inv hr)
  obtain ⟨m', mo, _, hm', _, _, _, hc⟩ := h'.marker
  obtain rfl : mo' = mo := Option.some.inj (hmo'.symm.trans hm'.markerOrder)
  refine ⟨_, m', h1, hm'.last, fun e he c tx hx => ?_⟩
  -- "`c` or a later one" is the timestamp order: the CONSENSUSSNAPSHOT key is `timestamp ‖ hash`
  -- and the writer refuses a non-increasing one. The repaired marker is current, so `c` lies at
  -- or below it.
  have hle : e.1 ≤ mo' := Nat.le_of_not_lt fun hlt =>
    Bool.noConfusion ((isCons_of (kv := kv) hx).symm.trans (hcur e he hlt))
  exact ⟨(hc e he hle c tx hx).1, fun h => ((hc e he hle c tx hx).2.1 h).symm⟩

/-- `SnapProto.chain` names the marker the snapshot extends, so nothing else about `kv` is needed -/
theorem markSnap_after_snapshot {kv kv1 : KV} {s : Snap} {o t : Nat} {tx : Tx}
    (hstep : writeSnapshot kv s o = .ok kv1) (hp : SnapProto kv s o)
    (hs : s.txs = [t]) (ht : findTx kv t = some tx) (hk : consensusKind tx.kind = true) :
    ∃ kv2, markSnap kv1 s.id = .ok kv2 ∧ lastCons kv2 = some { ts := s.ts, snap := s.id, next := 0 } := by
  obtain ⟨m, mo, mt, hm, _, h1, h2, h3⟩ := hp.chain t tx hs ht hk
  obtain ⟨hx, hfs, hmk⟩ := writeSnapshot_reads hstep hp.next
  have hct : consTxOf kv1 s.id = some (s, tx) := by simp [consTxOf, hfs, hs, hx.tx ht, hk]
  exact ⟨advance kv1 s tx, markSnap_eq_reloadAt kv1 o s.id ▸ reloadAt_pending (hmk hm) hct h1 h2 h3,
    lastCons_advance kv1 s tx⟩

/-- If the process is not cut between the finalization of a consensus-class snapshot and the
    kernel's marker write, that write succeeds and records exactly this snapshot. -/
theorem marker_written_if_no_cut {kv kv1 : KV} {s : Snap} {o t : Nat} {tx : Tx} (hr : Reach kv)
    (hstep : writeSnapshot kv s o = .ok kv1) (hp : SnapProto kv s o)
    (hs : s.txs = [t]) (ht : findTx kv t = some tx) (hk : consensusKind tx.kind = true) :
    ∃ kv2, markSnap kv1 s.id = .ok kv2 ∧ lastCons kv2 = some { ts := s.ts, snap := s.id, next := 0 } :=
  markSnap_after_snapshot hstep hp hs ht hk

/-! ## the witness: mint finalized on chain 1, a deposit finalized on chain 2, stop -/

def runOk (r : Res) : KV := match r with | .ok kv => kv | _ => default

def wMint : Tx := { id := 9, kind := 2, ref0 := 8, outs := 1, key := 1708, inputs := [] }
def wDep : Tx := { id := 10, kind := 0, ref0 := 0, outs := 1, key := 1, inputs := [] }
def wS9 : Snap := { id := 9, node := 1, round := 1, ts := 1001000000, txs := [9] }
def wS10 : Snap := { id := 10, node := 2, round := 1, ts := 1002000000, txs := [10] }
def w1 : KV := runOk (lockInputs (genesis 7) wMint)
def w2 : KV := runOk (writeTx w1 wMint)
def w3 : KV := runOk (writeSnapshot w2 wS9 8)
def w4 : KV := runOk (lockInputs w3 wDep)
def w5 : KV := runOk (writeTx w4 wDep)
def w6 : KV := runOk (writeSnapshot w5 wS10 9)

def markerAfter (r : Res) : Option Nat := match r with | .ok kv => (lastCons kv).map (·.snap) | _ => none

/-- The startup code of the pinned tree (only the last topology entry is tested) violates C21:
    the mint snapshot 9 is finalized, the restarted node still records the genesis snapshot 8.
    (Reproduced on the real code by the harness corpus case; repaired by the `fix:` commit.) -/
theorem marker_after_restart_old_counterexample :
    (consTxOf w6 9).isSome = true ∧ markerAfter (setupRepairOld w6) = some 8 := by decide +kernel

/- the repaired startup walk records snapshot 9 on the same state -/
example : markerAfter (setupRepair w6) = some 9 := by decide +kernel

theorem wS9_proto : SnapProto w2 wS9 8 := by
  refine ⟨by decide +kernel, fun t tx h1 h2 _ => ?_⟩
  obtain rfl : 9 = t := List.singleton_inj.mp h1
  obtain rfl : wMint = tx := Option.some.inj h2
  exact ⟨{ ts := 1, snap := 8, next := 0 }, 7, 8, ⟨rfl, rfl, rfl⟩, by decide +kernel, rfl, by decide +kernel, by decide +kernel⟩

theorem wS10_proto : SnapProto w5 wS10 9 :=
  .of_ordinary (t := 10) (tx := wDep) (by decide +kernel) rfl (by decide +kernel) rfl

/-- the hypotheses of the theorems are satisfiable: the witness state is reachable (two
    finalizations following `SnapProto`, one of them consensus-class) -/
theorem witness_reach : Reach w6 :=
  have r1 : Reach w1 := .step (.genesis 7) (.lock (t := wMint) rfl)
  have r2 : Reach w2 := .step r1 (.wtx (t := wMint) rfl)
  have r3 : Reach w3 := .step r2 (.snap (s := wS9) (o := 8) rfl wS9_proto)
  have r4 : Reach w4 := .step r3 (.lock (t := wDep) rfl)
  have r5 : Reach w5 := .step r4 (.wtx (t := wDep) rfl)
  .step r5 (.snap (s := wS10) (o := 9) rfl wS10_proto)

/- `marker_after_restart` instantiated at the witness: after the repaired restart the marker
    covers the mint snapshot -/
example : ∃ kv' m', setupRepair w6 = .ok kv' ∧ lastCons kv' = some m' ∧ 1001000000 ≤ m'.ts := by
  obtain ⟨kv', m', h1, h2, h3⟩ := marker_after_restart witness_reach
  have hc : consTxOf w6 9 = some (wS9, wMint) := by decide +kernel
  exact ⟨kv', m', h1, h2, (h3 (8, 9) (by decide +kernel) wS9 wMint hc).1⟩

end Mixin.C21
