import Mixin.Proofs.SnapCodec
import Mixin.Facts.ExpectedC07
/-!
# C07 — snapshot encoding is canonical and the snapshot hash commits the payload

Theorems about `Mixin.Model.SnapCodec` (model of `common/decoding.go:DecodeSnapshotWithTopo`,
`common/encoding.go:encodeSnapshotPayload`, `common/snapshot.go`).

The model follows the code with the `fix:` commit for finding `C07:partial-topo-suffix` (the
error of the last `ReadUint64` is returned, so a 1..7 byte partial topology suffix is rejected);
without it `snap_decode_canonical` fails on the witnesses of `partial_suffix_rejected`.
-/
namespace Mixin.C07
open Mixin.BytesSnap Mixin.SnapCodec

/-- Any byte string the snapshot decoder accepts is exactly the encoding of the decoded
    snapshot: either `VersionedMarshal` (with the full 8-byte topology suffix), or topology 0
    and the encoding without any suffix. -/
theorem snap_decode_canonical {b : Bytes} {s : Snapshot} {topo : Nat}
    (h : unmarshalVersionedSnapshot b = some (s, topo)) :
    versionedMarshal s topo = some b ∨
      (topo = 0 ∧ encodeSnapshotPayload s true = some b) := by
  rw [unmarshal_eq_decode] at h
  obtain ⟨hwf, sg, tail, hsg, rfl, ht⟩ := decode_inv h
  have henc := encode_of_wf hwf true hsg (fun h => nomatch h)
  rcases (readTail_some ht).2 with ⟨rfl, rfl⟩ | rfl
  · exact Or.inr ⟨rfl, (List.append_nil _).symm ▸ henc⟩
  · exact Or.inl (versionedMarshal_of_encode hwf.version henc topo)

/-- the witnesses of the finding: a minimal valid body (round 0, one transaction, no
    signature, 96 bytes) -/
def wBody : Bytes :=
  [0x77, 0x77, 0, 2] ++ List.replicate 32 0 ++ List.replicate 8 0 ++ [0, 0] ++ [0, 1] ++
  List.replicate 32 0x11 ++ [0, 0, 0, 0, 0, 0, 0, 9] ++ List.replicate 8 0

def exSnap0 : Snapshot :=
  ⟨2, List.replicate 32 0, 0, none, [List.replicate 32 0x11], 9, none⟩

theorem wBody_decodes : unmarshalVersionedSnapshot wBody = some (exSnap0, 0) := by decide +kernel

theorem exSnap0_decodes :
    unmarshalVersionedSnapshot (wBody ++ [0, 0, 0, 0, 0, 0, 0, 7]) = some (exSnap0, 7) := by
  decide +kernel

/- non-vacuity: both canonical forms of the minimal snapshot are accepted -/
example : (unmarshalVersionedSnapshot wBody).isSome = true := by rw [wBody_decodes]; rfl
example : (unmarshalVersionedSnapshot (wBody ++ [0, 0, 0, 0, 0, 0, 0, 7])).isSome = true := by
  rw [exSnap0_decodes]; rfl
example : versionedMarshal exSnap0 7 = some (wBody ++ [0, 0, 0, 0, 0, 0, 0, 7]) := by
  rcases snap_decode_canonical exSnap0_decodes with h | ⟨h, _⟩
  · exact h
  · cases h
/-- every partial topology suffix of the minimal body (the witnesses of the finding) is
    rejected, as is a ninth byte -/
theorem partial_suffix_rejected :
    ∀ k ∈ [1, 2, 3, 4, 5, 6, 7, 9], unmarshalVersionedSnapshot (wBody ++ List.replicate k 0) = none := by
  decide +kernel

/-- The tail handling of `DecodeSnapshotWithTopo` *before* the `fix:` commit (kept here as the
    record of finding `C07:partial-topo-suffix`, not part of the model): the "data short"
    error of `ReadUint64` was overwritten and `ReadByte` then saw `io.EOF`. -/
def readTailBeforeFix (b : Bytes) : Option Nat :=
  if b.length = 0 then some 0
  else if b.length < 8 then some 0
  else if b.length = 8 then some (beNat b)
  else none

/-- the defect and its repair, on the tail of the witnesses: `readTailBeforeFix` accepts 1..7
    stray octets as topology 0 (so `body ++ stray` decodes to a snapshot whose encodings are
    `body` and `body ++ be64 0`, neither equal to the input); `readTail` rejects them -/
theorem partial_suffix_before_and_after_fix :
    ∀ k ∈ [1, 2, 3, 4, 5, 6, 7],
      readTailBeforeFix (List.replicate k 0) = some 0 ∧ readTail (List.replicate k 0) = none := by
  decide

/-- decoded fields fit their Go types (fixed-size arrays, 64-bit integers, non-empty mask) -/
theorem snap_decode_wf {b : Bytes} {s : Snapshot} {topo : Nat}
    (h : unmarshalVersionedSnapshot b = some (s, topo)) : WF s ∧ topo < 2 ^ 64 := by
  rw [unmarshal_eq_decode] at h
  obtain ⟨hwf, _, _, _, _, ht⟩ := decode_inv h
  exact ⟨hwf, (readTail_some ht).1⟩

/-- An accepted snapshot has version 2, holds 1 to 255 transaction hashes of 32 bytes in
    strictly increasing byte order (pairwise, hence no duplicates); round zero holds exactly
    one transaction and no references; later rounds carry references. -/
theorem snap_structure {b : Bytes} {s : Snapshot} {topo : Nat}
    (h : unmarshalVersionedSnapshot b = some (s, topo)) :
    s.version = 2 ∧
    1 ≤ s.txs.length ∧ s.txs.length ≤ 255 ∧
    s.txs.Pairwise (fun a b => bytesLt a b = true) ∧
    (∀ x ∈ s.txs, x.length = 32) ∧
    (s.round = 0 → s.txs.length = 1 ∧ s.refs = none) ∧
    (0 < s.round → s.refs.isSome = true) := by
  obtain ⟨hwf, _⟩ := snap_decode_wf h
  exact ⟨hwf.version, hwf.count.1, hwf.count.2, hwf.sorted, hwf.txLen, hwf.round0,
    fun hp => hwf.later (Nat.ne_of_gt hp)⟩

/-- strictly increasing implies duplicate-free -/
theorem snap_no_duplicates {b : Bytes} {s : Snapshot} {topo : Nat}
    (h : unmarshalVersionedSnapshot b = some (s, topo)) : s.txs.Nodup := by
  refine (snap_decode_wf h).1.sorted.imp fun {a b} hab heq => ?_
  rw [heq, bytesLt_irrefl] at hab
  cases hab

/-- What a caller must supply for the encoder to produce bytes that decode again: the Go
    types' sizes, 1..255 distinct transactions in any order, the round rules, a non-empty
    mask when a signature is present. -/
structure Encodable (s : Snapshot) : Prop where
  version : s.version = 2
  node : s.nodeId.length = 32
  round : s.round < 2 ^ 64
  refs : WFRefs s.refs
  txLen : ∀ x ∈ s.txs, x.length = 32
  count : 1 ≤ s.txs.length ∧ s.txs.length ≤ 255
  nodup : s.txs.Nodup
  round0 : s.round = 0 → s.txs.length = 1 ∧ s.refs = none
  later : s.round ≠ 0 → s.refs.isSome = true
  ts : s.ts < 2 ^ 64
  sig : WFSig s.sig

theorem wf_canon {s : Snapshot} (h : Encodable s) : WF (canon s) :=
  { h with
    txLen := fun x hx => h.txLen x (List.mem_mergeSort.mp hx)
    count := (sortTxs_length s.txs).symm ▸ h.count
    sorted := sortTxs_increasing_of_nodup h.nodup
    round0 := (sortTxs_length s.txs).symm ▸ h.round0 }

theorem snap_roundtrip {s : Snapshot} (h : Encodable s) :
    ∃ body, encodeSnapshotPayload s true = some body ∧ ∀ {tail t}, readTail tail = some t →
      unmarshalVersionedSnapshot (body ++ tail) = some (canon s, t) := by
  have hwf := wf_canon h
  obtain ⟨sg, hsg⟩ := encSig_isSome h.sig
  refine ⟨layout (canon s) sg, ?_, fun ht => ?_⟩
  · rw [← encode_canon]
    exact encode_of_wf hwf true hsg (fun h => nomatch h)
  · rw [unmarshal_eq_decode]
    exact decode_layout hwf hsg _ ht

/-- `VersionedMarshal` of an encodable snapshot succeeds and decodes to the same snapshot with
    its transactions sorted, and the same topology. -/
theorem snap_roundtrip_topo {s : Snapshot} {topo : Nat} (h : Encodable s) (ht : topo < 2 ^ 64) :
    ∃ b, versionedMarshal s topo = some b ∧ unmarshalVersionedSnapshot b = some (canon s, topo) := by
  obtain ⟨body, he, hd⟩ := snap_roundtrip h
  exact ⟨_, versionedMarshal_of_encode h.version he topo, hd (readTail_be ht)⟩

/-- The encoding without any topology suffix (what storage keeps for some records and what
    payload-only inputs look like) decodes to the same snapshot with topology 0. -/
theorem snap_roundtrip_nosuffix {s : Snapshot} (h : Encodable s) :
    ∃ b, encodeSnapshotPayload s true = some b ∧ unmarshalVersionedSnapshot b = some (canon s, 0) := by
  obtain ⟨body, he, hd⟩ := snap_roundtrip h
  exact ⟨body, he, List.append_nil body ▸ hd readTail_nil⟩

/-- the two forms never collide: the full form with topology `t` is eight octets longer than
    the suffix-less form -/
theorem snap_forms_distinct {s : Snapshot} {topo : Nat} {b : Bytes}
    (h1 : versionedMarshal s topo = some b) : encodeSnapshotPayload s true ≠ some b := by
  intro he
  rw [versionedMarshal, encodeSnapshotWithTopo, he] at h1
  obtain ⟨_, h1⟩ := Option.ite_none_right_eq_some.mp h1
  have := congrArg List.length (Option.some.inj h1)
  rw [List.length_append, beBytes_length] at this
  omega

/-- non-vacuity of `Encodable`: a later-round snapshot with two unsorted transactions and a
    signature -/
def exSnap1 : Snapshot :=
  ⟨2, List.replicate 32 1, 5, some ⟨List.replicate 32 2, List.replicate 32 3⟩,
   [List.replicate 32 9, List.replicate 32 4], 77, some ⟨3, List.replicate 64 8⟩⟩

example : Encodable exSnap1 where
  version := rfl
  node := rfl
  round := by decide
  refs := ⟨rfl, rfl⟩
  txLen := by decide
  count := by decide
  nodup := by decide
  round0 := by decide
  later := by decide
  ts := by decide
  sig := ⟨by decide, by decide, rfl⟩

/-- For snapshots of the Go types' sizes whose payload exists (the encoder does not panic), the
    hashed bytes are equal exactly when version, node, round, references, the transaction *set*
    (sorted list) and timestamp are equal. -/
theorem snap_payload_inj {s₁ s₂ : Snapshot} {p₁ p₂ : Bytes} (w₁ : Sized s₁) (w₂ : Sized s₂)
    (h₁ : versionedPayload s₁ = some p₁) (h₂ : versionedPayload s₂ = some p₂) :
    p₁ = p₂ ↔
      (s₁.version = s₂.version ∧ s₁.nodeId = s₂.nodeId ∧ s₁.round = s₂.round ∧
       s₁.refs = s₂.refs ∧ sortTxs s₁.txs = sortTxs s₂.txs ∧ s₁.ts = s₂.ts) := by
  obtain ⟨v₁, c₁, rfl⟩ := versionedPayload_some h₁
  obtain ⟨v₂, c₂, rfl⟩ := versionedPayload_some h₂
  rw [← sortTxs_length] at c₁ c₂
  constructor
  · intro hp
    exact ⟨v₁.trans v₂.symm, layout_inj (sized_canon w₁) (sized_canon w₂) c₁ c₂ hp⟩
  · intro ⟨_, hn, hr, hl, ht, hts⟩
    simp only [layout, canon, v₁, v₂, hn, hr, hl, ht, hts]

/-- sorted lists agree exactly when the transaction lists are permutations of each other:
    "the transaction set" -/
theorem sortTxs_eq_iff_perm (l₁ l₂ : List Bytes) : sortTxs l₁ = sortTxs l₂ ↔ l₁.Perm l₂ :=
  ⟨fun h => (sortTxs_perm l₁).symm.trans (h ▸ sortTxs_perm l₂),
    mergeSort_eq_of_perm (le := bytesLe) (fun _ _ _ => bytesLe_trans) bytesLe_total
      (fun _ _ => bytesLe_antisymm)⟩

/-- The payload ignores the signature; the local topology is not an argument of the
    payload at all. -/
theorem snap_payload_ignores_signature (s : Snapshot) (sig : Option CosiSig) :
    versionedPayload { s with sig := sig } = versionedPayload s := rfl

/-- the payload of a decoded snapshot exists: every accepted snapshot has a hash -/
theorem snap_payload_of_decoded {b : Bytes} {s : Snapshot} {topo : Nat}
    (h : unmarshalVersionedSnapshot b = some (s, topo)) :
    ∃ p, versionedPayload s = some p := by
  obtain ⟨hwf, _⟩ := snap_decode_wf h
  have hwf' : WF { s with sig := none } := { hwf with sig := trivial }
  refine ⟨layout { s with sig := none } (beBytes 8 0), ?_⟩
  rw [versionedPayload, if_pos (verCommon_eq ▸ hwf.version)]
  exact encode_of_wf hwf' false rfl (fun _ => rfl)

/-- With the hash an opaque function of the payload bytes that is injective (collision
    resistance of blake3, an explicit hypothesis), the snapshot hash of two snapshots is equal
    exactly when version, node, round, references, transaction set and timestamp agree — in
    particular it never moves with the signature or the topology. -/
theorem snap_hash_sensitive {Hash : Type} (H : Bytes → Hash) (hinj : Function.Injective H)
    {s₁ s₂ : Snapshot} {p₁ p₂ : Bytes} (w₁ : Sized s₁) (w₂ : Sized s₂)
    (h₁ : versionedPayload s₁ = some p₁) (h₂ : versionedPayload s₂ = some p₂) :
    H p₁ = H p₂ ↔
      (s₁.version = s₂.version ∧ s₁.nodeId = s₂.nodeId ∧ s₁.round = s₂.round ∧
       s₁.refs = s₂.refs ∧ s₁.txs.Perm s₂.txs ∧ s₁.ts = s₂.ts) := by
  rw [← sortTxs_eq_iff_perm, ← snap_payload_inj w₁ w₂ h₁ h₂]
  exact hinj.eq_iff

/-- without any assumption on the hash: equal hashed fields give equal hashes -/
theorem snap_hash_wellDefined {Hash : Type} (H : Bytes → Hash) {s₁ s₂ : Snapshot}
    (hv : s₁.version = s₂.version) (hn : s₁.nodeId = s₂.nodeId) (hr : s₁.round = s₂.round)
    (hl : s₁.refs = s₂.refs) (ht : s₁.txs.Perm s₂.txs) (hts : s₁.ts = s₂.ts) :
    (versionedPayload s₁).map H = (versionedPayload s₂).map H := by
  rw [versionedPayload_congr hv hn hr hl ((sortTxs_eq_iff_perm _ _).mpr ht) hts]

/-- Two accepted byte strings have hashes (the payloads exist), and — with an injective hash —
    the hashes agree exactly when version, node, round, references, the transaction list and
    the timestamp of the decoded snapshots agree. Signature and topology may differ freely. -/
theorem snap_hash_sensitive_decoded {Hash : Type} (H : Bytes → Hash) (hinj : Function.Injective H)
    {b₁ b₂ : Bytes} {s₁ s₂ : Snapshot} {t₁ t₂ : Nat}
    (d₁ : unmarshalVersionedSnapshot b₁ = some (s₁, t₁))
    (d₂ : unmarshalVersionedSnapshot b₂ = some (s₂, t₂)) :
    ∃ p₁ p₂, versionedPayload s₁ = some p₁ ∧ versionedPayload s₂ = some p₂ ∧
      (H p₁ = H p₂ ↔
        (s₁.version = s₂.version ∧ s₁.nodeId = s₂.nodeId ∧ s₁.round = s₂.round ∧
         s₁.refs = s₂.refs ∧ s₁.txs = s₂.txs ∧ s₁.ts = s₂.ts)) := by
  obtain ⟨p₁, h₁⟩ := snap_payload_of_decoded d₁
  obtain ⟨p₂, h₂⟩ := snap_payload_of_decoded d₂
  obtain ⟨w₁, _⟩ := snap_decode_wf d₁
  obtain ⟨w₂, _⟩ := snap_decode_wf d₂
  have key := snap_payload_inj (sized_of_wf w₁) (sized_of_wf w₂) h₁ h₂
  rw [sortTxs_of_increasing w₁.sorted, sortTxs_of_increasing w₂.sorted] at key
  exact ⟨p₁, p₂, h₁, h₂, hinj.eq_iff.trans key⟩

/- non-vacuity: the minimal snapshot is accepted in both forms (different topology), so the
    theorem applies with `t₁ ≠ t₂`; reordering transactions is a permutation -/
example : (unmarshalVersionedSnapshot wBody) = some (exSnap0, 0) := wBody_decodes
example : exSnap1.txs.Perm exSnap1.txs.reverse := (List.reverse_perm _).symm

end Mixin.C07
