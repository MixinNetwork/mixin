import Mixin.Model.AggSig
import Mixin.Proofs.Cosi
import Mixin.Proofs.PeerMsg
/-!
# C14 — aggregate transaction signatures are sound and bound to their signer set

Theorems about `Mixin.AggSig` (model of crypto/aggregation.go, tied by the `aggsig`
correspondence stream); points are discrete logs, so "verifies" is a scalar equation mod ℓ.

NOT theorems (unforgeability / rogue-key claims): "fails if key vector, signer set or message
changes", "a subset of private keys cannot sign for a larger set".  They are exercised on the
real code only (property mode of the `aggsig` stream).
-/
namespace Mixin.C14
open Mixin.Cosi Mixin.AggSig

/-- the negation of what `collectAggregateSigners` enforces (`collectSigners_eq_none_iff`) -/
def Malformed (publics : List Pt) (signers : List Int) : Prop :=
  signers = [] ∨ ¬ signers.Pairwise (· < ·) ∨
    ∃ i ∈ signers, i < 0 ∨ (publics.length : Int) ≤ i ∨ (publics.getD i.toNat Pt.bad).decode = none

/-- an empty list, a list that is not strictly increasing (unsorted or
    with a duplicate), an index outside the key vector or a refused key is an error in
    `AggregateSign`, `AggregateVerify` and in the transcript construction. -/
theorem agg_rejects_malformed (publics : List Pt) (signers : List Int) (h : Malformed publics signers) :
    (∀ privs seedLen w z x, sign privs publics signers seedLen w z x = none) ∧
    (∀ R S w x, verify R S publics signers w x = false) ∧
    (∀ kb, transcript publics kb signers = none) := by
  have hc : collectSigners publics signers = none := (collectSigners_eq_none_iff publics signers).2 h
  refine ⟨?_, ?_, ?_⟩
  · intro privs seedLen w z x
    unfold sign
    simp only [hc, ite_self]
  · intro R S w x
    unfold verify weightedKey
    rw [hc]; rfl
  · intro kb
    unfold transcript
    rw [hc]

/-- a duplicated signer is malformed -/
theorem duplicate_malformed (publics : List Pt) (l₁ l₂ l₃ : List Int) (i : Int) :
    Malformed publics (l₁ ++ i :: l₂ ++ i :: l₃) :=
  .inr (.inl fun hp => Int.lt_irrefl i ((List.pairwise_append.1 hp).2.2 i
    (List.mem_append_right _ List.mem_cons_self) i List.mem_cons_self))

/-- conversely a well-formed list is accepted (the rejection is exact) -/
theorem wellformed_accepted (publics : List Pt) (signers : List Int) (h : ¬ Malformed publics signers) :
    (collectSigners publics signers).isSome = true :=
  Option.isSome_iff_ne_none.2 fun hc => h ((collectSigners_eq_none_iff publics signers).1 hc)

/-- `AggregateVerify` accepts iff the signer list is well formed and
    `S = r + x·Σ wᵢ aᵢ (mod ℓ)` for the discrete logs `r` of `R` and `aᵢ` of the selected keys,
    with `R` and the weighted key not the identity and `S` canonical. -/
theorem agg_algebra (R : Pt) (S : Nat) (publics : List Pt) (signers : List Int) (w : List Nat) (x : Nat) :
    verify R S publics signers w x = true ↔
      ∃ sel A r, collectSigners publics signers = some sel ∧ A = weightedSum sel w % ell ∧ A ≠ 0 ∧
        R.decode = some r ∧ S < ell ∧ S = (r + x * A) % ell := by
  unfold verify weightedKey
  cases hc : collectSigners publics signers with
  | none => simp
  | some sel =>
    rw [Option.map_some, verifyWithChallenge_dl_iff]
    simp only [Option.some.injEq, exists_and_left, exists_eq_left']

/-- the signing loop only lets through the private scalars of the selected keys -/
theorem signLoop_eq (publics : List Pt) (signers : List Int) (privs : List (Option Nat)) (ys : List Nat)
    (h : signLoop publics signers privs = some ys) :
    ys = signers.map (fun i => dlAt publics i.toNat) := by
  induction signers generalizing privs ys with
  | nil => exact (Option.some.inj h).symm
  | cons i rest ih =>
    cases privs with
    | nil => cases h
    | cons p ps =>
      unfold signLoop at h
      obtain ⟨-, h⟩ := of_ite_eq h nofun
      cases p with
      | none => cases h
      | some y =>
        obtain ⟨-, h⟩ := of_ite_eq h nofun
        obtain ⟨hdec, h⟩ := of_ite_eq h nofun
        obtain ⟨ys', hr, rfl⟩ := Option.map_eq_some_iff.1 h
        rw [ih ps ys' hr, List.map_cons, dlAt, not_not.1 hdec, Option.getD_some]

theorem weightedSum_eq_dot (sel : List (Nat × Nat)) (w : List Nat) :
    weightedSum sel w = dot w (sel.map (·.2)) := by
  induction sel generalizing w with
  | nil => cases w <;> rfl
  | cons p t ih =>
    cases w with
    | nil => rfl
    | cons v vs => rw [weightedSum, List.map_cons, dot, ih vs]

/-- whatever `AggregateSign` returns for `(keys, signers, message)` — i.e. for
    the coefficients `w` and the challenge `x` derived from them — is accepted by
    `AggregateVerify` for the same inputs, provided the nonce sum and the weighted key are not
    the identity (`decodePoint` refuses it; both are hash-dependent values). -/
theorem agg_complete (privs : List (Option Nat)) (publics : List Pt) (signers : List Int)
    (seedLen : Nat) (w : List Nat) (z x : Nat) (R : Pt) (S : Nat)
    (h : sign privs publics signers seedLen w z x = some (R, S))
    (hz : z % ell ≠ 0)
    (hA : ∀ sel, collectSigners publics signers = some sel → weightedSum sel w % ell ≠ 0) :
    verify R S publics signers w x = true := by
  unfold sign at h
  obtain ⟨-, h⟩ := of_ite_eq h nofun
  obtain ⟨-, h⟩ := of_ite_eq h nofun
  cases hc : collectSigners publics signers with
  | none => rw [hc] at h; cases h
  | some sel =>
    cases hl : signLoop publics signers privs with
    | none => rw [hc, hl] at h; cases h
    | some ys =>
      rw [hc, hl] at h
      obtain ⟨rfl, rfl⟩ := Prod.mk.inj (Option.some.inj h)
      -- the selected discrete logs are the private scalars
      have hsel : sel.map (·.2) = ys := by
        rw [((collectSigners_eq_some_iff publics signers sel).1 hc).2,
          signLoop_eq publics signers privs ys hl, List.map_map]
        rfl
      rw [agg_algebra]
      refine ⟨sel, _, z % ell % ell, hc, rfl, hA sel hc, decode_dl _ (by rwa [Nat.mod_mod]),
        Nat.mod_lt _ ell_pos, ?_⟩
      rw [weightedSum_eq_dot, hsel, Nat.mod_mod, add_mul_mod, Nat.add_comm]

/-- the index and count fields are the 4-byte case of the big-endian codec of the peer messages -/
theorem be32_eq_beBytes (n : Nat) : be32 n = PeerMsg.beBytes 4 n := by
  simp only [be32, PeerMsg.beBytes, Nat.div_div_eq_div_mul, List.nil_append, List.cons_append, Nat.reducePow,
    Nat.reduceMul]

theorem be32_length (n : Nat) : (be32 n).length = 4 := rfl

theorem be32_inj (a b : Nat) (ha : a < 2 ^ 32) (hb : b < 2 ^ 32) (h : be32 a = be32 b) : a = b := by
  rw [← PeerMsg.beNat_beBytes_of_lt (n := 4) ha, ← PeerMsg.beNat_beBytes_of_lt (n := 4) hb, ← be32_eq_beBytes,
    ← be32_eq_beBytes, h]

/-- items of a transcript: (index, 32 key bytes) -/
def body : List (Nat × Bytes) → Bytes
  | [] => []
  | (i, k) :: rest => be32 i ++ k ++ body rest

def GoodItems (l : List (Nat × Bytes)) : Prop := ∀ p ∈ l, p.1 < 2 ^ 32 ∧ p.2.length = 32

theorem GoodItems.tail {p : Nat × Bytes} {l : List (Nat × Bytes)} (h : GoodItems (p :: l)) :
    GoodItems l :=
  fun q hq => h q (List.mem_cons_of_mem _ hq)

theorem body_inj (l₁ l₂ : List (Nat × Bytes)) (h₁ : GoodItems l₁) (h₂ : GoodItems l₂)
    (h : body l₁ = body l₂) : l₁ = l₂ := by
  induction l₁ generalizing l₂ with
  | nil =>
    cases l₂ with
    | nil => rfl
    | cons q u => cases h
  | cons p t ih =>
    cases l₂ with
    | nil => cases h
    | cons q u =>
      obtain ⟨i, k⟩ := p
      obtain ⟨j, k'⟩ := q
      obtain ⟨hi, hk⟩ := h₁ (i, k) List.mem_cons_self
      obtain ⟨hj, hk'⟩ := h₂ (j, k') List.mem_cons_self
      rw [body, body, List.append_assoc, List.append_assoc] at h
      obtain ⟨e1, h⟩ := List.append_inj h rfl
      obtain ⟨e2, h⟩ := List.append_inj h (hk.trans hk'.symm)
      rw [be32_inj i j hi hj e1, e2, ih u h₁.tail h₂.tail h]

theorem transcriptBody_eq (kb : List Bytes) (signers : List Int) :
    transcriptBody kb signers = body (signers.map (fun i => (i.toNat, kb.getD i.toNat []))) := by
  induction signers with
  | nil => rfl
  | cons i rest ih => rw [transcriptBody, List.map_cons, body, ih]

theorem map_toNat_inj {a b : List Int} (ha : ∀ i ∈ a, 0 ≤ i) (hb : ∀ i ∈ b, 0 ≤ i)
    (h : a.map Int.toNat = b.map Int.toNat) : a = b := by
  have back : ∀ l : List Int, (∀ i ∈ l, 0 ≤ i) → (l.map Int.toNat).map Int.ofNat = l := fun l hl =>
    map_map_cancel fun i hi => Int.toNat_of_nonneg (hl i hi)
  rw [← back a ha, h, back b hb]

/-- the transcript bytes determine the number of signers, their indexes and
    the selected key bytes (fixed-width fields: 4-byte count, then 4-byte index + 32-byte key per
    signer).  Two accepted signer lists over possibly different key vectors with equal transcripts
    are the same list selecting the same keys. -/
theorem transcript_inj (pub₁ pub₂ : List Pt) (kb₁ kb₂ : List Bytes) (s₁ s₂ : List Int) (t : Bytes)
    (h₁ : transcript pub₁ kb₁ s₁ = some t) (h₂ : transcript pub₂ kb₂ s₂ = some t)
    (hk₁ : ∀ i ∈ s₁, (kb₁.getD i.toNat []).length = 32) (hk₂ : ∀ i ∈ s₂, (kb₂.getD i.toNat []).length = 32)
    (hr₁ : ∀ i ∈ s₁, i < 2 ^ 32) (hr₂ : ∀ i ∈ s₂, i < 2 ^ 32) :
    s₁ = s₂ ∧ ∀ i ∈ s₁, kb₁.getD i.toNat [] = kb₂.getD i.toNat [] := by
  have accepted : ∀ (pub : List Pt) (kb : List Bytes) (s : List Int), transcript pub kb s = some t →
      (∀ i ∈ s, 0 ≤ i) ∧ t = be32 s.length ++ transcriptBody kb s := by
    intro pub kb s h
    unfold transcript at h
    split at h
    · cases h
    · rename_i sel hc
      exact ⟨fun i hi => (((collectSigners_eq_some_iff pub s sel).1 hc).1.2.2 i hi).1,
        (Option.some.inj h).symm⟩
  have good : ∀ (kb : List Bytes) (s : List Int), (∀ i ∈ s, 0 ≤ i) → (∀ i ∈ s, i < 2 ^ 32) →
      (∀ i ∈ s, (kb.getD i.toNat []).length = 32) →
      GoodItems (s.map (fun i => (i.toNat, kb.getD i.toNat []))) := by
    intro kb s hnn hr hk p hp
    obtain ⟨i, hi, rfl⟩ := List.mem_map.1 hp
    exact ⟨(Int.toNat_lt (hnn i hi)).2 (hr i hi), hk i hi⟩
  obtain ⟨hnn₁, e₁⟩ := accepted pub₁ kb₁ s₁ h₁
  obtain ⟨hnn₂, e₂⟩ := accepted pub₂ kb₂ s₂ h₂
  have e := (List.append_inj (e₁.symm.trans e₂) rfl).2
  rw [transcriptBody_eq, transcriptBody_eq] at e
  have hitems := body_inj _ _ (good kb₁ s₁ hnn₁ hr₁ hk₁) (good kb₂ s₂ hnn₂ hr₂ hk₂) e
  have hidx : s₁ = s₂ := by
    apply map_toNat_inj hnn₁ hnn₂
    have := congrArg (List.map Prod.fst) hitems
    rwa [List.map_map, List.map_map] at this
  subst hidx
  exact ⟨rfl, fun i hi => congrArg Prod.snd (List.map_inj_left.1 hitems i hi)⟩

example : transcript [Pt.dl 5, Pt.dl 7] [[1, 2], [3]] [0, 1] =
    some [0, 0, 0, 2, 0, 0, 0, 0, 1, 2, 0, 0, 0, 1, 3] := by decide

/- a concrete signature of the model and its verification; a malformed list is refused -/
example : sign [some 5, some 7] [Pt.dl 5, Pt.dl 7] [0, 1] 32 [2, 3] 11 4 = some (Pt.dl 11, (4 * 31 + 11) % ell) ∧
    verify (Pt.dl 11) ((4 * 31 + 11) % ell) [Pt.dl 5, Pt.dl 7] [0, 1] [2, 3] 4 = true ∧
    verify (Pt.dl 11) ((4 * 31 + 11) % ell) [Pt.dl 5, Pt.dl 7] [1, 0] [3, 2] 4 = false ∧
    sign [some 5] [Pt.dl 5, Pt.dl 7] [0, 1] 32 [2, 3] 11 4 = none ∧
    sign [some 5, some 8] [Pt.dl 5, Pt.dl 7] [0, 1] 32 [2, 3] 11 4 = none := by decide

example : Malformed [Pt.dl 5, Pt.dl 7] [1, 0] := by
  right; left; decide

end Mixin.C14
